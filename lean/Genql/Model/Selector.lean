/-
  Genql.Model.Selector — the path-selector language of `selector.go`:
  `ParseSelector`, `ParseArray`, `ReadRange`, `ReadIndex`, `ParsePipe` (a hand-written tokenizer
  equivalent to the three regular expressions, applied the way `FindAllString` applies them),
  `SelectDimension`, `SelectMany`, `Unwind`, `Reader`, `ReaderExecutor`, `ExecReader` (with the
  `::` continuation), `Mix`, `Distinct`.

  Core Lean only.  All recursion is structural.  Every Go operation that can panic (`match[0]`,
  `split[0]`, `array[i]`, `array[b:e]`; the guarded `rs.([]any)` is the match of `flattenKept`) is an explicit `.error .panic` branch placed
  *behind the guard the Go code has now*; `C09.sel_total_no_panic` proves the branches unreachable.
-/
import Genql.Model.Value
namespace Genql.Sel
open Genql
variable {N : Type} [Num N]

/-! ## Abstract syntax -/

/-- One dimension of an array selector.  Go encodes `each` as the index `-1` and `begin`/`end`
    as the range bound `-1`; parsed indices are never negative (`ReadIndex` rejects them). -/
inductive Dim where
  | idx (i : Nat)
  | each
  | range (b e : Option Nat)
  deriving DecidableEq, Repr, Inhabited

/-- `KeySelector`, `[]*IndexSelector`, `KeepDimension`, `[]*PipeSelector` (key, type text). -/
inductive Step where
  | key (k : String)
  | dims (ds : List Dim)
  | keep (ds : List Dim)
  | pipe (ps : List (String × String))
  deriving DecidableEq, Repr, Inhabited

/-- The result of `ParseSelector`: an optional leading `TopLevelFunctionSelector` and the steps. -/
structure Parsed where
  fn : Option String
  steps : List Step
  deriving DecidableEq, Repr, Inhabited

/-! ## Character-level helpers -/

/-- `\w` of Go's RE2: ASCII letters, digits and `_` only. -/
def isWord (c : Char) : Bool := c.isAlphanum || c == '_'

/-- length of the longest prefix whose characters satisfy `p` (a greedy `p*`) -/
def spanLen (p : Char → Bool) : List Char → Nat
  | [] => 0
  | c :: cs => if p c then spanLen p cs + 1 else 0

/-- `regexp.FindAllString(s, -1)` for a pattern that never matches the empty string: `m cs` is
    the length of the (leftmost-first) match of the pattern *at the head* of `cs`, if any.  At
    every position that is not inside the previous match the pattern is tried; a match is
    emitted and its characters are skipped, an unmatched character is skipped.  The first
    argument counts the characters of the previous match still to be skipped. -/
def findAll (m : List Char → Option Nat) : Nat → List Char → List (List Char)
  | _, [] => []
  | skip + 1, _ :: cs => findAll m skip cs
  | 0, c :: cs =>
    match m (c :: cs) with
    | some (n + 1) => (c :: cs).take (n + 1) :: findAll m n cs
    | _ => findAll m 0 cs

/-- `strings.TrimLeft(s, string(c))` -/
def trimLeft (c : Char) (cs : List Char) : List Char := cs.dropWhile (· == c)
/-- `strings.TrimRight(s, string(c))` -/
def trimRight (c : Char) (cs : List Char) : List Char := (cs.reverse.dropWhile (· == c)).reverse
/-- `strings.Trim(s, string(c))` -/
def trimBoth (c : Char) (cs : List Char) : List Char := trimRight c (trimLeft c cs)

/-- put a character in front of the first part of a split -/
def consHead (c : Char) : List (List Char) → List (List Char)
  | h :: t => (c :: h) :: t
  | [] => [[c]]

/-- `strings.Split(s, string(sep))` — always at least one part. -/
def splitChar (sep : Char) : List Char → List (List Char)
  | [] => [[]]
  | c :: cs => if c == sep then [] :: splitChar sep cs else consHead c (splitChar sep cs)

/-- `strings.Split(s, "::")` — non-overlapping occurrences, left to right. -/
def splitCC : List Char → List (List Char)
  | [] => [[]]
  | [c] => [[c]]
  | c :: d :: rest =>
    if c == ':' && d == ':' then [] :: splitCC rest else consHead c (splitCC (d :: rest))

/-- `strings.SplitN(s, "=>", 2)`: `some (before, after)` for the first `=>`, `none` if absent. -/
def splitArrow : List Char → Option (List Char × List Char)
  | [] => none
  | c :: rest =>
    if c == '=' && rest.head? == some '>' then some ([], rest.tail)
    else (splitArrow rest).map fun p => (c :: p.1, p.2)

/-! ## The three regular expressions, as "match length at the head" functions

  Go's `regexp` is leftmost-first: alternatives are tried in order and quantifiers are greedy with
  backtracking.  In all three patterns the backtracking alternatives are dead (a shorter greedy
  run is always followed by a character of the same class, which the continuation rejects), so
  the deterministic readings below are exact. -/

/-- `'[^']*'+` — a quote, non-quotes, then one or more quotes (all of them: greedy). -/
def mQuoted : List Char → Option Nat
  | [] => none
  | c :: cs =>
    if c == '\'' then
      let n := spanLen (· != '\'') cs
      let k := spanLen (· == '\'') (cs.drop n)
      if k == 0 then none else some (1 + n + k)
    else none

/-- `\w+` -/
def mWord (cs : List Char) : Option Nat :=
  let n := spanLen isWord cs
  if n == 0 then none else some n

/-- a literal -/
def mLit (lit cs : List Char) : Option Nat :=
  if lit.isPrefixOf cs then some lit.length else none

/-- `\[[^\[\]]*\]` with `o = '['`, `c = ']'` (and the same with braces) -/
def mBracket (o c : Char) : List Char → Option Nat
  | [] => none
  | x :: cs =>
    if x == o then
      let n := spanLen (fun y => y != o && y != c) cs
      match cs.drop n with
      | y :: _ => if y == c then some (n + 2) else none
      | [] => none
    else none

/-- `_FULLPATTERN = ('[^']*'+|\<\-|\*|[\w]+|\[[^\[\]]*\]|\{[^\{\}]*\})` -/
def matchFull (cs : List Char) : Option Nat :=
  mQuoted cs <|> mLit ['<', '-'] cs <|> mLit ['*'] cs <|> mWord cs
    <|> mBracket '[' ']' cs <|> mBracket '{' '}' cs

/-- `\([^\)]*\)+` -/
def mParen : List Char → Option Nat
  | [] => none
  | c :: cs =>
    if c == '(' then
      let n := spanLen (· != ')') cs
      let k := spanLen (· == ')') (cs.drop n)
      if k == 0 then none else some (1 + n + k)
    else none

/-- `_ARRAYPATTERN = \([^\)]*\)+|\w+` -/
def matchArray (cs : List Char) : Option Nat := mParen cs <|> mWord cs

/-- `!?\|\w+` -/
def mPipeTail (cs : List Char) : Option Nat :=
  let bang : Nat := if cs.head? == some '!' then 1 else 0
  match cs.drop bang with
  | [] => none
  | c :: r =>
    if c == '|' then
      let n := spanLen isWord r
      if n == 0 then none else some (bang + 1 + n)
    else none

/-- `_PIPEPATTERN = ('[^']*'+|\w+)(!?\|\w+)|\w+` -/
def matchPipe (cs : List Char) : Option Nat :=
  (match mQuoted cs <|> mWord cs with
   | some n => (mPipeTail (cs.drop n)).map (n + ·)
   | none => none) <|> mWord cs

/-! ## Parsing -/

def kwEach : List Char := ['e', 'a', 'c', 'h']
def kwBegin : List Char := ['b', 'e', 'g', 'i', 'n']
def kwEnd : List Char := ['e', 'n', 'd']
def kwKeep : List Char := ['k', 'e', 'e', 'p', '=', '>']

/-- value of a string of ASCII digits (`none` if some character is not a digit) -/
def digitsVal : List Char → Nat → Option Nat
  | [], acc => some acc
  | c :: cs, acc => if c.isDigit then digitsVal cs (acc * 10 + (c.toNat - 48)) else none

def maxInt64 : Nat := 9223372036854775807

/-- an optional leading sign: (is it `-`, the rest) -/
def splitSign : List Char → Bool × List Char
  | [] => (false, [])
  | c :: r => if c == '-' then (true, r) else if c == '+' then (false, r) else (false, c :: r)

/-- `ReadIndex`: `strconv.Atoi` (optional sign, one or more ASCII digits, value within `int64`)
    followed by the rejection of negative numbers.  `-0` is accepted (it is `0`). -/
def readIndex (cs : List Char) : R Nat :=
  let sg := splitSign cs
  if sg.2.isEmpty then .error .error
  else match digitsVal sg.2 0 with
    | none => .error .error
    | some n =>
      if sg.1 then (if n == 0 then .ok 0 else .error .error)
      else if n ≤ maxInt64 then .ok n else .error .error

def readBound (kw cs : List Char) : R (Option Nat) :=
  if cs == kw then .ok none else some <$> readIndex cs

/-- `ReadRange` -/
def readRange (m : List Char) : R Dim :=
  let s := trimRight ')' (trimLeft '(' (trimBoth ' ' m))
  match splitChar ':' s with
  | [a, b] => do
    let b' ← readBound kwBegin a
    let e' ← readBound kwEnd b
    pure (.range b' e')
  | _ => .error .error

/-- the body of the loop of `ParseArray` -/
def parseDim (m : List Char) : R Dim :=
  match m with
  | [] => .error .panic                       -- `match[0]`
  | c :: _ =>
    if c == '(' then readRange m
    else if m == kwEach then .ok .each
    else Dim.idx <$> readIndex m

/-- `ParseArray` -/
def parseArray (m : List Char) : R Step :=
  let body := trimRight ']' (trimLeft '[' m)
  let keep := kwKeep.isPrefixOf body
  let body' := if keep then body.drop kwKeep.length else body
  (fun ds => if keep then Step.keep ds else Step.dims ds) <$> mapE parseDim (findAll matchArray 0 body')

def trimQuotes (cs : List Char) : List Char := trimRight '\'' (trimLeft '\'' cs)

/-- the body of the loop of `ParsePipe` -/
def parsePipeItem (m : List Char) : R (String × String) :=
  match splitChar '|' m with
  | [] => .error .panic                       -- `split[0]`
  | [k] => .ok (String.ofList (trimQuotes k), "")
  | [k, t] => .ok (String.ofList (trimQuotes k), String.ofList t)
  | _ => .error .error

/-- `ParsePipe` -/
def parsePipe (m : List Char) : R Step :=
  Step.pipe <$> mapE parsePipeItem (findAll matchPipe 0 m)

/-- the body of the loop of `ParseSelector` -/
def parseTok (m : List Char) : R Step :=
  match m with
  | [] => .error .panic                       -- `match[0]`
  | c :: _ =>
    if c == '[' then parseArray (trimBoth ' ' m)
    else if c == '{' then parsePipe m
    else .ok (.key (String.ofList (trimQuotes m)))

/-- the head of `ParseSelector`: `strings.SplitN(selector, "=>", 2)` and the `^\w*$` test on the
    part before the arrow; yields the function name (if any) and the text to tokenize -/
def splitFn (s : List Char) : Option String × List Char :=
  match splitArrow s with
  | some (f, rest) => if f.all isWord then (some (String.ofList f), rest) else (none, s)
  | none => (none, s)

/-- `ParseSelector` on the characters of the selector -/
def parseSelectorL (s : List Char) : R Parsed :=
  Parsed.mk (splitFn s).1 <$> mapE parseTok (findAll matchFull 0 (splitFn s).2)

def parseSelector (s : String) : R Parsed := parseSelectorL s.toList

/-! ## Evaluation -/

/-- `array[b:e]` — panics unless `b ≤ e ≤ len` -/
def goSlice (xs : List α) (b e : Nat) : R (List α) :=
  if b ≤ e ∧ e ≤ xs.length then .ok ((xs.drop b).take (e - b)) else .error .panic

/-- `array[i]` — panics unless `i < len` -/
def goIndex (xs : List α) (i : Nat) : R α :=
  match xs[i]? with
  | some x => .ok x
  | none => .error .panic

/-- `SelectDimension` -/
def selDim : List Dim → Val N → R (Val N)
  | [], v => .ok v
  | d :: ds, .arr xs =>
    match d with
    | .range b e =>
      let b' := b.getD 0
      let e' := e.getD xs.length
      if b' > e' ∨ e' > xs.length then .error .error
      else goSlice xs b' e' >>= fun s => selDim ds (.arr s)
    | .each =>
      Val.arr <$> mapE (selDim ds) xs
    | .idx i =>
      if i ≥ xs.length then .error .error
      else goIndex xs i >>= selDim ds
  | _ :: _, _ => .error .error

mutual
/-- the contribution of one item to `Unwind(data, depth)`; `d` is the already decremented depth -/
def unwindItem : Int → Val N → List (Val N)
  | d, .arr ys => if d == 0 then ys else unwindItems (d - 1) ys
  | _, v => [v]
def unwindItems : Int → List (Val N) → List (Val N)
  | _, [] => []
  | d, x :: xs => unwindItem d x ++ unwindItems d xs
end

/-- `Unwind(data, depth)`.  The depth is an `int`: `SelectMany` passes `len(dimensions)-1`, which
    is `-1` for the empty selector `[]`; a negative depth never reaches `0`, i.e. flattens fully. -/
def unwind (depth : Int) (data : List (Val N)) : List (Val N) :=
  if depth == 0 then data else unwindItems (depth - 1) data

/-- the post-processing `SelectMany` applies to the result of `SelectDimension` -/
def flattenKept (depth : Int) : Val N → Val N
  | .arr ys => .arr (unwind depth ys)
  | v => v

/-- `SelectMany` -/
def selMany (xs : List (Val N)) (ds : List Dim) : R (Val N) :=
  flattenKept ((ds.length : Int) - 1) <$> selDim ds (.arr xs)

/-- `[]*IndexSelector` step of `Reader` -/
def dimsStep (ds : List Dim) (cont : Val N → R (Val N)) : Val N → R (Val N)
  | .null => .ok .null
  | .arr xs => selMany xs ds >>= cont
  | _ => .error .error

/-- `KeepDimension` step of `Reader` -/
def keepStep (ds : List Dim) (cont : Val N → R (Val N)) : Val N → R (Val N)
  | .null => .ok .null
  | .arr xs => selDim ds (.arr xs) >>= cont
  | _ => .error .error

/-- `%f` (six decimals) from the `%v` text of a non-integral float64, when that is certainly
    exact: the `%v` text is `d+.d{1,6}` with at most nine integer digits (then the binary value
    is within 1e-7 of the printed decimal, so rounding it to six places gives the same digits). -/
def fmtF6 (t : String) : Option String :=
  let cs := t.toList
  let neg := cs.head? == some '-'
  let body := if neg then cs.tail else cs
  match splitChar '.' body with
  | [ip, fp] =>
    if ip.all Char.isDigit && fp.all Char.isDigit && 1 ≤ ip.length && ip.length ≤ 9
        && 1 ≤ fp.length && fp.length ≤ 6 then
      some (String.ofList ((if neg then ['-'] else []) ++ ip ++ '.' :: fp
        ++ List.replicate (6 - fp.length) '0'))
    else none
  | _ => none

/-- `{k|string}`: `%d` of an integral float64, `%f` of any other, `%v` of the other kinds. -/
def pipeString : Val N → R (Val N)
  | .num n =>
    match Num.toInt? n with
    | some i => .ok (.str (toString i))
    | none =>
      match (Num.fmt n).bind fmtF6 with
      | some s => .ok (.str s)
      | none => .error .oom
  | v =>
    match fmtV v with
    | some s => .ok (.str s)
    | none => .error .oom

/-- the digit-free strings `strconv.ParseFloat` accepts (compared ASCII case-insensitively) -/
def floatSpecials : List (List Char) :=
  ["inf".toList, "+inf".toList, "-inf".toList, "infinity".toList, "+infinity".toList,
   "-infinity".toList, "nan".toList]

/-- `strconv.ParseFloat(s, 64)`, modelled exactly for decimal integers of at most 15 digits (other
    than `-0`, whose sign bit `Num.ofInt` cannot express) and for strings without any digit (an
    error unless they spell infinity or NaN).  Everything else is out of model. -/
def parseFloatModel (cs : List Char) : R (Val N) :=
  if !(cs.any Char.isDigit) then
    -- without a digit only `[+-]?inf(inity)?` and `nan` (ASCII case-insensitively) are floats
    (if floatSpecials.contains (cs.map Char.toLower) then .error .oom else .error .error)
  else
    let sg := splitSign cs
    if sg.2.isEmpty || sg.2.length > 15 then .error .oom
    else match digitsVal sg.2 0 with
      | none => .error .oom
      | some n =>
        if sg.1 then (if n == 0 then .error .oom else .ok (.num (Num.ofInt (-(n : Int)))))
        else .ok (.num (Num.ofInt (n : Int)))

/-- `{k|number}`: `strconv.ParseFloat` of a string; anything but a string is an error. -/
def pipeNumber : Val N → R (Val N)
  | .str s => parseFloatModel s.toList
  | _ => .error .error

/-- one `PipeSelector` applied to the value found under its key -/
def pipeConv (ty : String) (v : Val N) : R (Val N) :=
  if ty = "" then .ok v
  else if ty = "string" then pipeString v
  else if ty = "number" then pipeNumber v
  else .error .error

/-- the loop over the pipe selectors that fills `copy` -/
def pipeObj (fs : Row N) : List (String × String) → Row N → R (Row N)
  | [], acc => .ok acc
  | p :: ps, acc =>
    pipeConv p.2 (Val.get fs p.1) >>= fun v => pipeObj fs ps (setKey p.1 v acc)

mutual
/-- `[]*PipeSelector` step of `Reader` -/
def pipeStep (ps : List (String × String)) (cont : Val N → R (Val N)) : Val N → R (Val N)
  | .null => .ok .null
  | .obj fs => pipeObj fs ps [] >>= fun c => cont (.obj c)
  | .arr xs => do
    let ys ← pipeStepList ps cont xs
    pure (.arr ys)
  | _ => .error .error
def pipeStepList (ps : List (String × String)) (cont : Val N → R (Val N)) :
    List (Val N) → R (List (Val N))
  | [] => .ok []
  | x :: xs => do
    let y ← pipeStep ps cont x
    let ys ← pipeStepList ps cont xs
    pure (y :: ys)
end

/-- `Reader`: the rest of the selector list is the continuation of each step. -/
def evalSteps : List Step → Val N → R (Val N)
  | [] => fun d => .ok d
  | .key k :: rest => keyStep k (evalSteps rest)
  | .dims ds :: rest => dimsStep ds (evalSteps rest)
  | .keep ds :: rest => keepStep ds (evalSteps rest)
  | .pipe ps :: rest => pipeStep ps (evalSteps rest)

abbrev execSteps : List Step → Val N → R (Val N) := evalSteps

/-! ## Top level functions -/

mutual
def mixItem : Val N → List (Val N)
  | .arr ys => mixItems ys
  | v => [v]
/-- `MixArray` -/
def mixItems : List (Val N) → List (Val N)
  | [] => []
  | x :: xs => mixItem x ++ mixItems xs
end

def prefixKey (k : String) (p : String × Val N) : String × Val N := (k ++ "_" ++ p.1, p.2)

mutual
def mixField (k : String) : Val N → List (String × Val N)
  | .obj fs => (mixFields fs).map (prefixKey k)
  | v => [(k, v)]
/-- the writes `MixObject` performs, in the order of one traversal -/
def mixFields : List (String × Val N) → List (String × Val N)
  | [] => []
  | (k, v) :: rest => mixField k v ++ mixFields rest
end

def hasKey (k : String) : List (String × α) → Bool
  | [] => false
  | p :: rest => p.1 == k || hasKey k rest

def dupKeys : List (String × α) → Bool
  | [] => false
  | p :: rest => hasKey p.1 rest || dupKeys rest

/-- `Mix`.  `MixObject` ranges over Go maps, so when two flattened keys collide
    (`{"a_b":1,"a":{"b":2}}`) the survivor depends on the iteration order: out of model. -/
def mix : Val N → R (Val N)
  | .arr xs => .ok (.arr (mixItems xs))
  | .obj fs =>
    let flat := mixFields fs
    if dupKeys flat then .error .oom else .ok (.obj flat)
  | _ => .error .error

/-- the loop of `Distinct`; `seen` are the `%v` fingerprints met so far -/
def distinctGo : List (Val N) → List String → R (List (Val N))
  | [], _ => .ok []
  | x :: xs, seen =>
    match fmtV x with
    | none => .error .oom
    | some s =>
      if seen.contains s then distinctGo xs seen
      else (x :: ·) <$> distinctGo xs (s :: seen)

/-- `Distinct` -/
def distinct : Val N → R (Val N)
  | .arr xs => Val.arr <$> distinctGo xs []
  | _ => .error .error

/-- `topLevelFunctions` -/
abbrev Registry (N : Type) := String → Option (Val N → R (Val N))

/-- the registry after `init()` -/
def builtins : Registry N := fun f =>
  if f = "mix" then some mix else if f = "distinct" then some distinct else none

/-- `RegisterTopLevelFunction(name, g)`: the map entry is (over)written -/
def register (reg : Registry N) (name : String) (g : Val N → R (Val N)) : Registry N :=
  fun f => if f = name then some g else reg f

/-- the functions the correspondence harness registers (and registers again) under names of its choosing -/
def testImpl : String → Option (Val N → R (Val N))
  | "count" => some fun v => match v with
    | .arr xs => .ok (.num (Num.ofInt (Int.ofNat xs.length)))
    | _ => .ok (.num (Num.ofInt 1))
  | "wrap" => some fun v => .ok (.arr [v])
  | "id" => some fun v => .ok v
  | "first" => some fun v => match v with
    | .arr (x :: _) => .ok x
    | _ => .ok .null
  | _ => none

/-- `ReaderExecutor` -/
def readerExecutor (reg : Registry N) (p : Parsed) (d : Val N) : R (Val N) :=
  match p.fn with
  | none => evalSteps p.steps d
  | some f =>
    evalSteps p.steps d >>= fun rs =>
      match reg f with
      | some g => g rs
      | none => .error .error

/-- the parsing half of `ExecReader`: every `::`-separated part is parsed before anything runs -/
def parseAllL (s : List Char) : R (List Parsed) := mapE parseSelectorL (splitCC s)

/-- the executing half of `ExecReader`: each part continues from the previous result -/
def runAll (reg : Registry N) : List Parsed → Val N → R (Val N)
  | [], d => .ok d
  | p :: ps, d =>
    readerExecutor reg p d >>= runAll reg ps

/-- `ExecReader` with an explicit registry of top level functions (the cache is semantically
    invisible: parsing is a pure function of the selector text). -/
def execReaderWith (reg : Registry N) (d : Val N) (s : String) : R (Val N) :=
  parseAllL s.toList >>= fun ps => runAll reg ps d

/-- `ExecReader` -/
def execReader (d : Val N) (s : String) : R (Val N) := execReaderWith builtins d s

end Genql.Sel

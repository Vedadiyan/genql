/-
  Genql.Model.Builtins — the pure built-in functions of `functions.go` (everything except the
  gob/crypto based HASH/ENCODE/DECODE and the stateful GETVAR/SETVAR, which live in their own
  models, and TIMESTAMP, which is not modelled).
-/
import Genql.Model.Value
namespace Genql
variable {N : Type} [Num N]

/-- `Guard(n, args)` -/
def guard (n : Nat) (args : List α) : R Unit :=
  if args.length = n then .ok () else .error .error

/-- `AsType[[]any](v)` followed by `*slice`: a NULL argument is a nil dereference, i.e. a panic
    that the enclosing `exec` recovers into an error. -/
def asSlice : Val N → R (List (Val N))
  | .arr xs => .ok xs
  | .null => .error .error
  | _ => .error .error

/-- `ToFloat64` through `%v` and `ParseFloat`: numbers are themselves; texts that might parse
    are out of the model; everything else fails. -/
def toFloat64 : Val N → R N
  | .num n => .ok n
  | .str _ => .error .oom
  | _ => .error .error

/-- the shared loop of SUM / AVG: sum of the non-NULL members, `none` if all are NULL -/
def sumLoop : List (Val N) → Option N → R (Option N)
  | [], acc => .ok acc
  | .null :: xs, acc => sumLoop xs acc
  | x :: xs, acc => do
    let n ← toFloat64 x
    sumLoop xs (some (match acc with | some s => Num.add s n | none => Num.add (Num.ofInt 0) n))

def minLoop (better : N → N → Bool) : List (Val N) → Option N → R (Option N)
  | [], acc => .ok acc
  | .null :: xs, acc => minLoop better xs acc
  | x :: xs, acc => do
    let n ← toFloat64 x
    minLoop better xs (some (match acc with | some m => if better n m then n else m | none => n))

def optNum : Option N → Val N
  | some n => .num n
  | none => .null

/-- `UnwindFunc`: flattens exactly one level. -/
def unwindOne : List (Val N) → List (Val N)
  | [] => []
  | .arr ys :: xs => ys ++ unwindOne xs
  | x :: xs => x :: unwindOne xs

def upperStr (s : String) : String := String.ofList (s.toList.map Char.toUpper)

/-- the strings whose Go `strings.ToLower/ToUpper` the model predicts: ASCII letters are mapped, other
    ASCII and CJK ideographs (no case) are kept.  Any other character (`ö`, `ß`, `İ`, …) goes through
    Go's Unicode case tables, which are not modelled: out of model, counted by the correspondence. -/
def caseModelled (s : String) : Bool :=
  s.toList.all fun c => c.toNat < 128 || (0x4E00 ≤ c.toNat && c.toNat ≤ 0x9FFF)

/-- CONCAT as the property states it (non-NULL arguments only); the Go code prints `<nil>` for a
    NULL argument — known finding KF-concat-null, switch `concatNilText`. -/
def concatVals (nilText : Bool) : List (Val N) → R String
  | [] => .ok ""
  | .null :: xs => do
    let rest ← concatVals nilText xs
    pure ((if nilText then "<nil>" else "") ++ rest)
  | x :: xs => do
    let s ← fmtR x
    let rest ← concatVals nilText xs
    pure (s ++ rest)

/-- the fixed-arity functions and the count each passes to `Guard(n, args)` as its first statement;
    the registry of the Go code is compared with this table on every run (regenerated facts) -/
def arities : List (String × Nat) :=
  [("sum", 1), ("avg", 1), ("min", 1), ("max", 1), ("first", 1), ("last", 1), ("elementat", 2), ("unwind", 1),
   ("if", 3), ("to_lower", 1), ("to_upper", 1), ("daterange", 2), ("changetype", 2), ("fuse", 1),
   ("defaultkey", 1), ("raise", 1), ("raise_when", 2), ("report", 1), ("report_when", 2)]

def arityOf (name : String) : Option Nat :=
  match arities.find? (fun p => p.1 == name) with
  | some p => some p.2
  | none => none

/-- the bodies of the built-ins, after the arity guard -/
def callBody (concatNilText : Bool) (name : String) (star : Option (List (Val N)))
    (fromLen : Nat) (args : List (Val N)) : R (IVal N) :=
  match name, args with
  | "sum", [a] => do
    let xs ← asSlice a
    let r ← sumLoop xs none
    pure (.v (optNum r))
  | "avg", [a] => do
    let xs ← asSlice a
    let r ← sumLoop xs none
    pure (.v (match r with
      | some s => .num (Num.div s (Num.ofInt xs.length))
      | none => .null))
  | "min", [a] => do
    let xs ← asSlice a
    let r ← minLoop (fun n m => Num.lt n m) xs none
    pure (.v (optNum r))
  | "max", [a] => do
    let xs ← asSlice a
    let r ← minLoop (fun n m => Num.lt m n) xs none
    pure (.v (optNum r))
  | "count", [] =>
    match star with
    | some xs => .ok (.v (.num (Num.ofInt xs.length)))
    | none => .ok (.v (.num (Num.ofInt fromLen)))
  | "count", a :: _ => do
    let xs ← asSlice a
    pure (.v (.num (Num.ofInt xs.length)))
  | "concat", xs => do
    let s ← concatVals concatNilText xs
    pure (.v (.str s))
  | "first", [.null] => .ok (.v .null)
  | "first", [a] => do
    let xs ← asSlice a
    pure (.v (xs.head?.getD .null))
  | "last", [.null] => .ok (.v .null)
  | "last", [a] => do
    let xs ← asSlice a
    pure (.v (xs.getLast?.getD .null))
  | "elementat", [.null, _] => .ok (.v .null)
  | "elementat", [a, i] => do
    let xs ← asSlice a
    match i with
    | .num n =>
      match Num.toInt? n with
      | some k =>
        if k < 0 then .error .error      -- negative index: runtime panic recovered into an error
        else match xs[k.toNat]? with
          | some x => .ok (.v x)
          | none => .error .error
      | none => .error .oom              -- `int(float)` truncation of a fraction: not modelled
    | .null => .error .error
    | _ => .error .error
  | "unwind", [.null] => .ok (.v .null)
  | "unwind", [a] => do
    let xs ← asSlice a
    pure (.v (.arr (unwindOne xs)))
  | "if", [c, x, y] =>
    match c with
    | .bool true => .ok (.v x)
    | .bool false => .ok (.v y)
    | _ => .error .error
  | "array", xs => .ok (.v (.arr xs))
  | "to_lower", [a] =>
    match a with
    | .str s => if caseModelled s then .ok (.v (.str (lowerStr s))) else .error .oom
    | _ => .error .error
  | "to_upper", [a] =>
    match a with
    | .str s => if caseModelled s then .ok (.v (.str (upperStr s))) else .error .oom
    | _ => .error .error
  | "daterange", [f, t] => do
    let fs ← (match f with | .null => pure "" | x => fmtR x)
    let ts ← (match t with | .null => pure "" | x => fmtR x)
    pure (.v (.arr [.str fs, .str ts]))
  | "changetype", [x, t] =>
    match x, t with
    | .null, _ => .ok (.v .null)
    | x, .str ty =>
      match lowerStr ty with
      | "array" => .ok (.v (.arr [x]))
      | "string" => do
        let s ← fmtR x
        pure (.v (.str s))
      | "double" =>
        match x with
        | .num n => .ok (.v (.num n))
        | .str _ => .error .oom
        | _ => .error .error
      | "integer" =>
        match x with
        | .num n =>
          match Num.toInt? n with
          | some k => if -1000000000000000 < k ∧ k < 1000000000000000 then .ok (.v (.num (Num.ofInt k))) else .error .oom
          | none => .error .error    -- `Atoi` of a fractional / exponent / out-of-range text fails
        | .str _ => .error .oom
        | _ => .error .error
      | _ => .error .error
    | _, _ => .error .error
  | "fuse", [.null] => .ok (.v .null)
  | "fuse", [a] =>
    match a with
    | .obj fs => .ok (.fuse fs)
    | _ => .error .error
  | "defaultkey", [.null] => .ok (.v .null)
  | "defaultkey", [a] =>
    match a with
    | .obj [(_, v)] => .ok (.v v)
    | _ => .error .error
  | "raise", [_] => .error .error
  | "raise_when", [c, _] =>
    match c with
    | .bool true => .error .error
    | .bool false => .ok .omit
    | _ => .error .error
  | "report", [_] => .ok .omit
  | "report_when", [c, _] =>
    match c with
    | .bool _ => .ok .omit
    | _ => .error .error
  | _, _ => .error .oom            -- not a function of this model

/-- Aggregate and scalar built-ins over already evaluated arguments: `Guard(n, args)` first, then
    the body.  `star` is `current["*"]` when it is an array (COUNT with no arguments). -/
def callBuiltin (concatNilText : Bool) (name : String) (star : Option (List (Val N)))
    (fromLen : Nat) (args : List (Val N)) : R (IVal N) :=
  match arityOf name with
  | some n => if args.length = n then callBody concatNilText name star fromLen args else .error .error
  | none => callBody concatNilText name star fromLen args

end Genql

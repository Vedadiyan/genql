/-
  Genql.Model.Async — the wait-group protocol of one query: `n` rows, a select list whose items
  are function calls carrying a strategy (unqualified, ASYNC, SPIN, SPINASYNC, ONCE), the main
  goroutine, the goroutines it spawns, `wg.Add / wg.Done / wg.Wait` and the post-processors.

  Mirrors `FunExpr` (cases async / spin / spinasync / once), the `*any` post-processor of
  `SelectExpr`, and `execAndPostProcess` in /repo/plsql.go.  Core Lean only.

  Calls are numbered row-major: call `c` is item `c % k` of row `c / k` (`k` = length of the
  select list).  Thread `0` is the main goroutine, thread `c + 1` the goroutine of call `c`.
-/
namespace Genql.Async

inductive Strategy where
  | plain | async | spin | spinasync | once
  deriving DecidableEq, Repr

/-- The qualifiers that start a goroutine — exactly the ones an immediate function rejects. -/
def Strategy.spawns : Strategy → Bool
  | .async | .spin | .spinasync => true
  | _ => false

/-- The qualifiers whose goroutine is registered with the query's wait group. -/
def Strategy.waited : Strategy → Bool
  | .async | .spinasync => true
  | _ => false

/-- One select-list item: a call of function `name` (an index into the registry). -/
structure Item where
  strat : Strategy
  name : Nat
  deriving DecidableEq, Repr

/-- A query: `rows` rows, the select list, the registry (`f name` is an arbitrary pure user
    function, `imm name` says whether it is registered as immediate) and the evaluated
    arguments of every call. -/
structure Query (A V : Type) where
  rows : Nat
  items : List Item
  f : Nat → A → V
  args : Nat → A
  imm : Nat → Bool

variable {A V : Type}

def Query.total (q : Query A V) : Nat := q.rows * q.items.length
def Query.item (q : Query A V) (c : Nat) : Item := q.items.getD (c % q.items.length) ⟨.plain, 0⟩
def Query.strat (q : Query A V) (c : Nat) : Strategy := (q.item c).strat
def Query.name (q : Query A V) (c : Nat) : Nat := (q.item c).name
/-- What the unqualified call puts in the row's column. -/
def Query.value (q : Query A V) (c : Nat) : V := q.f (q.name c) (q.args c)

/-- The decision table of `FunExpr`: `IsImmediateFunction(name)` together with one of the three
    goroutine qualifiers is an error (`EXPECTATION_FAILED`). -/
def rejects (imm : Bool) (s : Strategy) : Bool := imm && s.spawns

def Query.rejected (q : Query A V) (c : Nat) : Bool := rejects (q.imm (q.name c)) (q.strat c)

/-- State of the goroutine of a call. -/
inductive Task where
  | unspawned   -- no `go` yet (never, for unqualified and ONCE calls)
  | pending     -- started, the function has not been called yet
  | ran         -- the function has been called
  | stored      -- (ASYNC) the result has been assigned to the captured variable
  | done        -- the goroutine has returned (after `wg.Done()` when it is waited for)
  deriving DecidableEq, Repr

/-- A row's column for one item: no such column, the `*any` pointer put there by `SelectExpr`
    until the post-processor runs, or a value (`none` = Go `nil`). -/
inductive Cell (V : Type) where
  | absent
  | ptr
  | val (v : Option V)
  deriving DecidableEq, Repr

/-- Program counter of the main goroutine besides the index of the next call. -/
inductive Phase where
  | run (added : Bool)      -- evaluating calls; `added`: `wg.Add(1)` of the current call is done
  | post (rest : List Nat)  -- `wg.Wait()` has returned; post-processors still to run
  | returned                -- `Exec` has returned the rows
  | failed                  -- `Exec` has returned an error
  deriving DecidableEq, Repr

structure St (V : Type) where
  pc : Nat                    -- next call of the main goroutine
  phase : Phase
  wg : Nat                    -- the WaitGroup counter
  task : Nat → Task
  invoked : Nat → Nat         -- how many times the function was called on behalf of call `c`
  slot : Nat → Option V       -- the captured `rs` of an ASYNC call
  col : Nat → Cell V
  memo : Nat → Option V       -- `query.singletonExecutions["once.<name>"]`
  onceCount : Nat → Nat       -- invocations made by ONCE, per function name
  onceFirst : Nat → Option Nat  -- (ghost) the call that filled the memo
  posts : List Nat            -- registered post-processors (calls whose column is a pointer)

def upd {β : Type} (g : Nat → β) (i : Nat) (b : β) : Nat → β := fun j => if j = i then b else g j

def init : St V where
  pc := 0
  phase := .run false
  wg := 0
  task := fun _ => .unspawned
  invoked := fun _ => 0
  slot := fun _ => none
  col := fun _ => .absent
  memo := fun _ => none
  onceCount := fun _ => 0
  onceFirst := fun _ => none
  posts := []

/-- The main goroutine evaluates call `c = s.pc` (one atomic step, except that for the waited
    qualifiers `wg.Add(1)` and `go …` are two steps). -/
def evalCall (q : Query A V) (s : St V) (added : Bool) : St V :=
  let c := s.pc
  if q.rejected c then { s with phase := .failed }
  else
    match q.strat c with
    | .plain =>
      { s with pc := c + 1, invoked := upd s.invoked c (s.invoked c + 1),
               col := upd s.col c (.val (some (q.value c))) }
    | .once =>
      match s.memo (q.name c) with
      | some v => { s with pc := c + 1, col := upd s.col c (.val (some v)) }
      | none =>
        { s with pc := c + 1, invoked := upd s.invoked c (s.invoked c + 1),
                 onceCount := upd s.onceCount (q.name c) (s.onceCount (q.name c) + 1),
                 onceFirst := upd s.onceFirst (q.name c) (some c),
                 memo := upd s.memo (q.name c) (some (q.value c)),
                 col := upd s.col c (.val (some (q.value c))) }
    | .spin => { s with pc := c + 1, task := upd s.task c .pending }
    | .async =>
      if added then
        -- `go func(){…}()`, register the post-processor, `data[name] = &rs`
        { s with pc := c + 1, phase := .run false, task := upd s.task c .pending,
                 col := upd s.col c .ptr, posts := s.posts ++ [c] }
      else { s with phase := .run true, wg := s.wg + 1 }
    | .spinasync =>
      if added then { s with pc := c + 1, phase := .run false, task := upd s.task c .pending }
      else { s with phase := .run true, wg := s.wg + 1 }

/-- One step of the main goroutine; `none` = blocked (in `wg.Wait()`) or finished. -/
def stepMain (q : Query A V) (s : St V) : Option (St V) :=
  match s.phase with
  | .run added =>
    if s.pc < q.total then some (evalCall q s added)
    else if s.wg = 0 then some { s with phase := .post s.posts }   -- `wg.Wait()` returns
    else none
  | .post (c :: rest) => some { s with phase := .post rest, col := upd s.col c (.val (s.slot c)) }
  | .post [] => some { s with phase := .returned }
  | .returned => none
  | .failed => none

/-- One step of the goroutine of call `c`. -/
def stepTask (q : Query A V) (s : St V) (c : Nat) : Option (St V) :=
  match s.task c, q.strat c with
  | .pending, _ => some { s with task := upd s.task c .ran, invoked := upd s.invoked c (s.invoked c + 1) }
  | .ran, .async => some { s with task := upd s.task c .stored, slot := upd s.slot c (some (q.value c)) }
  | .ran, .spinasync => some { s with task := upd s.task c .done, wg := s.wg - 1 }   -- `wg.Done()`
  | .ran, .spin => some { s with task := upd s.task c .done }
  | .stored, _ => some { s with task := upd s.task c .done, wg := s.wg - 1 }         -- `wg.Done()`
  | _, _ => none

/-- Thread `0` is the main goroutine, thread `c + 1` the goroutine of call `c`. -/
def step (q : Query A V) (s : St V) : Nat → Option (St V)
  | 0 => stepMain q s
  | c + 1 => stepTask q s c

/-- A schedule is a list of thread ids (a disabled pick is skipped). -/
def run (q : Query A V) (s : St V) : List Nat → St V
  | [] => s
  | t :: ts => match step q s t with
    | some s' => run q s' ts
    | none => run q s ts

inductive Reach (q : Query A V) : St V → Prop
  | init : Reach q init
  | step {s s' t} : Reach q s → step q s t = some s' → Reach q s'

/-! ### The events a run emits

Every step is labelled with the abstract event it performs and the call it belongs to
(`wgWait` belongs to all calls), so that the *order of events per call* in the model can be
compared with the order the fact extractor reads off the Go source (`AsyncShape` below). -/

/-- Abstract events, in the vocabulary of the fact extractor. -/
inductive Ev where
  | wgAdd | go | invoke | store | wgDone | wgWait | post
  deriving DecidableEq, Repr

/-- The labelled events of the step thread `t` would take in `s`. -/
def emits (q : Query A V) (s : St V) : Nat → List (Nat × Ev)
  | 0 =>
    match s.phase with
    | .run added =>
      if s.pc < q.total then
        if q.rejected s.pc then []
        else match q.strat s.pc with
          | .plain => [(s.pc, .invoke)]
          | .once => match s.memo (q.name s.pc) with
            | some _ => []
            | none => [(s.pc, .invoke)]
          | .spin => [(s.pc, .go)]
          | .async => if added then [(s.pc, .go)] else [(s.pc, .wgAdd)]
          | .spinasync => if added then [(s.pc, .go)] else [(s.pc, .wgAdd)]
      else if s.wg = 0 then [(0, .wgWait)] else []
    | .post (c :: _) => [(c, .post)]
    | _ => []
  | c + 1 =>
    match s.task c, q.strat c with
    | .pending, _ => [(c, .invoke)]
    | .ran, .async => [(c, .store)]
    | .ran, .spinasync => [(c, .wgDone)]
    | .stored, _ => [(c, .wgDone)]
    | _, _ => []

/-- The event trace of a schedule. -/
def trace (q : Query A V) (s : St V) : List Nat → List (Nat × Ev)
  | [] => []
  | t :: ts => match step q s t with
    | some s' => emits q s t ++ trace q s' ts
    | none => trace q s ts

/-- The events of call `c` (and the query-wide `wgWait`), in order. -/
def proj (c : Nat) (tr : List (Nat × Ev)) : List Ev :=
  (tr.filter fun e => e.1 == c || e.2 == .wgWait).map (·.2)

/-- The query with every ASYNC qualifier dropped. -/
def Query.unqualified (q : Query A V) : Query A V :=
  { q with items := q.items.map fun it => if it.strat = .async then { it with strat := .plain } else it }

/-! ### The shape of the extracted event order -/

/-! The fact extractor reports the events in program order: the statements of the
`async`/`spinasync` case of `FunExpr` (main goroutine up to `go`, then the goroutine body with
deferred calls last) followed by those of `execAndPostProcess`. -/

/-- Split at the first occurrence of `e`: the part before it and the part after it. -/
def splitAt (e : Ev) : List Ev → Option (List Ev × List Ev)
  | [] => none
  | x :: xs => if x = e then some ([], xs) else
      match splitAt e xs with
      | some (a, b) => some (x :: a, b)
      | none => none

/-- The goroutine body: exactly one `invoke`, then at most a `store`, then the one `wgDone`,
    last. -/
def bodyOk : List Ev → Bool
  | [.invoke, .store, .wgDone] => true
  | [.invoke, .wgDone] => true
  | _ => false

/-- "Add precedes go; the goroutine body ends with Done; Wait precedes every post":
    the list is `pre ++ go :: body ++ wgWait :: tail` where `pre` contains exactly the one
    `wgAdd`, `body` is a well-formed goroutine body and `tail` consists of `post`s only. -/
def AsyncShape (evs : List Ev) : Bool :=
  match splitAt .go evs with
  | none => false
  | some (pre, rest) =>
    pre == [.wgAdd] &&
    match splitAt .wgWait rest with
    | none => false
    | some (body, tail) => bodyOk body && tail.all (· == .post)

/-! ### Nested queries forward their wait

`BuildFromAliasedTable`, `SubqueryExpr` and `ExistExpr` run a sub-query with `exec()` (which does
not wait), append its post-processors to the parent's, and then (as `Query.adopt` does for a copy
made by `CopyQuery`)

    query.wg.Add(1); go func() { subquery.wg.Wait(); query.wg.Done() }()

At that point the sub-query's main goroutine has finished, so its counter only decreases. -/

namespace Nested

inductive Fwd where
  | notStarted | waiting | passed | done
  deriving DecidableEq, Repr

inductive Main where
  | start | added | spawned | returned
  deriving DecidableEq, Repr

structure St where
  cw : Nat        -- the sub-query's counter: its goroutines still running
  pw : Nat        -- the parent's counter
  fwd : Fwd       -- the forwarding goroutine
  main : Main     -- the parent's main goroutine
  deriving DecidableEq, Repr

/-- Thread `0`: parent main; thread `1`: the forwarder; any other thread: one of the sub-query's
    goroutines calling `Done`. -/
def step (s : St) : Nat → Option St
  | 0 => match s.main with
    | .start => some { s with main := .added, pw := s.pw + 1 }
    | .added => some { s with main := .spawned, fwd := .waiting }
    | .spawned => if s.pw = 0 then some { s with main := .returned } else none
    | .returned => none
  | 1 => match s.fwd with
    | .waiting => if s.cw = 0 then some { s with fwd := .passed } else none
    | .passed => some { s with fwd := .done, pw := s.pw - 1 }
    | _ => none
  | _ + 2 => if s.cw = 0 then none else some { s with cw := s.cw - 1 }

def init (k : Nat) : St := ⟨k, 0, .notStarted, .start⟩

inductive Reach (k : Nat) : St → Prop
  | init : Reach k (init k)
  | step {s s' t} : Reach k s → step s t = some s' → Reach k s'

def run (s : St) : List Nat → St
  | [] => s
  | t :: ts => match step s t with
    | some s' => run s' ts
    | none => run s ts

end Nested

end Genql.Async

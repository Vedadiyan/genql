/-
  Genql.Model.Heap — a small effect model for "queries never modify the caller's input": maps and
  slices live at addresses; the evaluator performs allocations, reads and writes.  The input document
  occupies the addresses that exist before the query starts.
-/
namespace Genql.Heap


/-- a field of an object or an element of an array: a scalar or the address of a heap cell -/
inductive Cell where
  | scalar (s : String)
  | ref (a : Nat)
  deriving DecidableEq, Repr

/-- the content of one heap cell: an object (key → cell reference or scalar) or an array -/
inductive Obj where
  | map (fs : List (String × Cell))
  | arr (xs : List Cell)
  deriving DecidableEq, Repr

structure Heap where
  next : Nat
  objs : Nat → Option Obj

/-- the write operations that occur in the Go sources (`data[k] = v`, `delete(m, k)`, `slice[i] = v`,
    `sort.Slice(slice, …)`, `copy(dst, …)`, `maps.Copy(dst, …)`) and allocation -/
inductive HOp where
  | alloc (o : Obj)                          -- `make`, a literal, `maps.Clone`, …: a fresh address
  | setKey (a : Nat) (k : String) (c : Cell)
  | delKey (a : Nat) (k : String)
  | setIdx (a : Nat) (i : Nat) (c : Cell)
  | permute (a : Nat) (xs : List Cell)      -- in-place sort / reslice / copy into
  | read (a : Nat)
  deriving Repr

def HOp.target : HOp → Option Nat
  | .alloc _ => none
  | .setKey a _ _ => some a
  | .delKey a _ => some a
  | .setIdx a _ _ => some a
  | .permute a _ => some a
  | .read _ => none

def upd (f : Nat → Option Obj) (a : Nat) (o : Option Obj) : Nat → Option Obj :=
  fun b => if b = a then o else f b

def setAssoc (k : String) (c : Cell) : List (String × Cell) → List (String × Cell)
  | [] => [(k, c)]
  | (k', c') :: r => if k' = k then (k, c) :: r else (k', c') :: setAssoc k c r

def step (h : Heap) : HOp → Heap
  | .alloc o => { next := h.next + 1, objs := upd h.objs h.next (some o) }
  | .setKey a k c =>
    match h.objs a with
    | some (.map fs) => { h with objs := upd h.objs a (some (.map (setAssoc k c fs))) }
    | _ => h
  | .delKey a k =>
    match h.objs a with
    | some (.map fs) => { h with objs := upd h.objs a (some (.map (fs.filter (·.1 != k)))) }
    | _ => h
  | .setIdx a i c =>
    match h.objs a with
    | some (.arr xs) => { h with objs := upd h.objs a (some (.arr (xs.set i c))) }
    | _ => h
  | .permute a xs =>
    match h.objs a with
    | some (.arr _) => { h with objs := upd h.objs a (some (.arr xs)) }
    | _ => h
  | .read _ => h

def run (h : Heap) : List HOp → Heap
  | [] => h
  | op :: ops => run (step h op) ops

/-- the discipline the write-site facts establish: every write targets an address the query itself
    allocated (addresses `≥ base`, where `base` is the first free address when the query starts) -/
def Disciplined (base : Nat) (ops : List HOp) : Bool :=
  ops.all fun op => match op.target with
    | some a => decide (base ≤ a)
    | none => true

end Genql.Heap

/-
  Genql.Model.Syntax — abstract syntax of the query language as the engine consumes it
  (the shape of the third-party parser's AST after `Build*`), and the engine-internal values.
-/
import Genql.Basic
namespace Genql

inductive BinOp where
  | plus | minus | mult | div | intDiv | mod | bitAnd | bitOr | bitXor | shl | shr
  deriving DecidableEq, Repr, Inhabited

inductive CmpOp where
  | eq | ne | lt | le | gt | ge | like | notLike | in_ | notIn
  deriving DecidableEq, Repr, Inhabited

inductive UnOp where
  | neg | tilda | bang
  deriving DecidableEq, Repr, Inhabited

inductive IsOp where
  | null | notNull | true_ | notFalse | notTrue | false_
  deriving DecidableEq, Repr, Inhabited

/-- Function execution strategy (`expr.Qualifier`). -/
inductive Qual where
  | none | async | spin | spinasync | once | scoped
  deriving DecidableEq, Repr, Inhabited

/-- The predicates of `sqlparser.JoinType` the engine consults. -/
structure JoinType where
  inner    : Bool   -- IsInner()
  left     : Bool   -- IsLeftJoin()
  straight : Bool   -- IsStraightJoin()
  parallel : Bool   -- IsParallel()
  deriving DecidableEq, Repr, Inhabited

mutual
inductive Expr (N : Type) where
  | null
  | bool (b : Bool)
  | num (n : N)
  | str (s : String)
  /-- column reference; `path` = the keys the selector parser yields for the column text -/
  | col (path : List String)
  | and (a b : Expr N)
  | or (a b : Expr N)
  | not (a : Expr N)
  | cmp (op : CmpOp) (a b : Expr N)
  | between (isBetween : Bool) (x lo hi : Expr N)
  | bin (op : BinOp) (a b : Expr N)
  | un (op : UnOp) (a : Expr N)
  | is (op : IsOp) (a : Expr N)
  | tuple (xs : List (Expr N))
  /-- `els = .null` when the ELSE branch is absent (the Go code evaluates a `NullVal`) -/
  | case (whens : List (When N)) (els : Expr N)
  | func (q : Qual) (name : String) (args : List (Expr N))
  /-- aggregate call; `COUNT(*)` has no arguments -/
  | aggr (name : String) (args : List (Expr N))
  | subq (q : Query N)
  | exists (q : Query N)
  /-- column reference written as a path-selector text that is more than a key path
      (`items[0].x`, `tags[(1:end)]`, `o{k|string}`): evaluated by the selector model -/
  | selc (text : String)
inductive When (N : Type) where
  | mk (cond val : Expr N)
inductive SelItem (N : Type) where
  | star
  /-- `key` = alias if present, else the column's last name (`AliasedExpr.ColumnName()`) -/
  | item (e : Expr N) (key : String) (alias : String)
inductive From (N : Type) where
  /-- `path`: selector keys of the table name; `ident`: alias, or first segment of the name -/
  | table (path : List String) (alias : String) (ident : String)
  | derived (q : Query N) (alias : String)
  | join (jt : JoinType) (l r : From N) (on : Expr N)
  /-- table named by a selector text that is more than a key path (`t[(0:2)]`, `t[each].items`) -/
  | tableSel (text : String) (alias : String) (ident : String)
inductive Cte (N : Type) where
  | mk (name : String) (q : Query N)
inductive Query (N : Type) where
  | select (ctes : List (Cte N)) (distinct : Bool) (sel : List (SelItem N)) (frm : From N)
      (wh : Expr N) (groupBy : List (String × List String)) (having : Expr N)
      (orderBy : List (List String × Bool)) (limit offset : Option Nat)
  | union (ctes : List (Cte N)) (l r : Query N) (distinct : Bool)
      (orderBy : List (List String × Bool)) (limit offset : Option Nat)
end

/-- What `Expr(...)` can return in the Go code before `ValueOf`. -/
inductive IVal (N : Type) where
  | v (x : Val N)
  /-- `ColumnName` -/
  | col (path : List String)
  /-- `NeutalString` (a string literal) -/
  | neutral (s : String)
  /-- `*float64`; `none` is the typed nil pointer `BinaryExpr` returns for a NULL operand -/
  | fptr (x : Option N)
  /-- `Ommit` -/
  | omit
  /-- `Fuse` -/
  | fuse (fs : Row N)
  deriving Inhabited

end Genql

/-
  Genql.Model.Conc — threads as lists of atomic instructions, lock-respecting interleavings,
  the decidable "well locked" predicate instantiated on instruction paths extracted from the Go
  source, and a small-step model of `ExecReader` with its process-wide selector cache.

  Core Lean only.
-/
namespace Genql.Conc

/-- Atomic instructions of a goroutine as far as the locking protocol is concerned. -/
inductive Instr where
  | lock (m : String)
  | unlock (m : String)
  | read (x : String)
  | write (x : String)
  deriving DecidableEq, Repr

abbrev Thread := List Instr

/-- `held` contains `m` (the guard of a location, if it has one). -/
def guardHeld (guard : String → Option String) (held : List String) (x : String) : Bool :=
  match guard x with
  | none => true
  | some m => held.contains m

/-- Well-lockedness of the remaining program of a thread that currently holds `held`:
    guarded accesses happen while the guard is held, a held mutex is not re-acquired (Go's
    `sync.Mutex` is not re-entrant: that would self-deadlock), only held mutexes are released
    (`Unlock` of an unlocked mutex is a fatal error), and the path ends with nothing held. -/
def WLfrom (guard : String → Option String) : List String → List Instr → Bool
  | held, [] => held.isEmpty
  | held, .lock m :: p => !held.contains m && WLfrom guard (m :: held) p
  | held, .unlock m :: p => held.contains m && WLfrom guard (held.filter (· != m)) p
  | held, .read x :: p => guardHeld guard held x && WLfrom guard held p
  | held, .write x :: p => guardHeld guard held x && WLfrom guard held p

/-- A path is well locked when it is so starting with no mutex held. -/
def WL (guard : String → Option String) (t : List Instr) : Bool := WLfrom guard [] t

/-- All extracted paths of a function are well locked. -/
def WLpaths (guard : String → Option String) (paths : List (List Instr)) : Bool :=
  paths.all (WL guard)

/-! ### Interleaving semantics -/

/-- Global state: who holds each mutex, the remaining program of every thread, and (ghost) the
    mutexes each thread acquired and did not release yet. -/
structure St where
  holder : String → Option Nat
  prog : Nat → List Instr
  held : Nat → List String

def upd {β : Type} (f : Nat → β) (t : Nat) (b : β) : Nat → β :=
  fun u => if u = t then b else f u

def updS {β : Type} (f : String → β) (m : String) (b : β) : String → β :=
  fun k => if k = m then b else f k

/-- One atomic step of thread `t`; `none` when `t` has finished or is blocked on a mutex.
    `unlock` follows Go: it releases the mutex whoever locked it (that it is never executed by
    a thread that does not hold the mutex is a *theorem* about well-locked programs). -/
def step (s : St) (t : Nat) : Option St :=
  match s.prog t with
  | [] => none
  | .lock m :: p =>
    match s.holder m with
    | none => some ⟨updS s.holder m (some t), upd s.prog t p, upd s.held t (m :: s.held t)⟩
    | some _ => none
  | .unlock m :: p =>
    some ⟨updS s.holder m none, upd s.prog t p, upd s.held t ((s.held t).filter (· != m))⟩
  | .read _ :: p => some ⟨s.holder, upd s.prog t p, s.held⟩
  | .write _ :: p => some ⟨s.holder, upd s.prog t p, s.held⟩

/-- Initial state of a family of threads. -/
def start (prog : Nat → List Instr) : St := ⟨fun _ => none, prog, fun _ => []⟩

/-- A scheduler is a list of thread ids; picking a finished/blocked thread is a no-op, so
    every list is a schedule and every interleaving is some list. -/
def run (s : St) : List Nat → St
  | [] => s
  | t :: ts => match step s t with
    | some s' => run s' ts
    | none => run s ts

/-- States reachable by some interleaving. -/
inductive Reach (init : St) : St → Prop
  | refl : Reach init init
  | step {s s' t} : Reach init s → step s t = some s' → Reach init s'

/-- `t` is about to access `x` (`w = true`: write). -/
def AtAccess (s : St) (t : Nat) (x : String) (w : Bool) : Prop :=
  ∃ p, s.prog t = (if w then .write x else .read x) :: p

/-- A data race: two different threads both about to access the same guarded location (accesses
    are always enabled, so the two are unordered), at least one of them writing. -/
def Race (guard : String → Option String) (s : St) : Prop :=
  ∃ t u x w1 w2, t ≠ u ∧ (guard x).isSome ∧ AtAccess s t x w1 ∧ AtAccess s u x w2 ∧
    (w1 = true ∨ w2 = true)

/-- Every thread has finished. -/
def Finished (s : St) : Prop := ∀ t, s.prog t = []

/-- Only the mutex `m0` is ever locked. -/
def SingleLock (m0 : String) (p : List Instr) : Prop := ∀ m, .lock m ∈ p → m = m0

/-! ### The selector cache of `ExecReader`

`Cache P` is a finite map (association list) from selector text to parsed selector. -/

abbrev Cache (P : Type) := List (String × P)

def Cache.get {P : Type} (k : String) : Cache P → Option P
  | [] => none
  | (k', v) :: rest => if k' = k then some v else Cache.get k rest

def Cache.put {P : Type} (k : String) (v : P) : Cache P → Cache P
  | [] => [(k, v)]
  | (k', v') :: rest => if k' = k then (k, v) :: rest else (k', v') :: Cache.put k v rest

/-- Program counter of one `ExecReader(doc, key)` call (repaired tree). -/
inductive Pc (P R : Type) where
  | start                 -- before `mut.Lock()`
  | locked                -- holds `mut`; about to test `cache[selector]`
  | miss                  -- holds `mut`; about to parse and (on success) store
  | hit                   -- holds `mut`; about to read `parsed := cache[selector]`
  | failUnlock            -- holds `mut`; parse failed, about to unlock and return the error
  | gotUnlock (p : P)     -- holds `mut`; has `parsed`, about to unlock
  | evalNext (p : P)      -- lock released; about to run `ReaderExecutor` over `parsed`
  | done (r : Option R)   -- returned (`none` = parse error)
  deriving DecidableEq

/-- A call in progress. -/
structure Call (D P R : Type) where
  doc : D
  key : String
  pc : Pc P R

structure CSt (D P R : Type) where
  mutHolder : Option Nat
  cache : Cache P
  call : Nat → Call D P R

/-- One atomic step of call `t`.  `parse` is `ParseSelector` over the `::`-separated parts,
    `eval` the `ReaderExecutor` loop; both are arbitrary pure functions here. -/
def cstep {D P R : Type} (parse : String → Option P) (eval : P → D → R)
    (s : CSt D P R) (t : Nat) : Option (CSt D P R) :=
  let c := s.call t
  let goto (pc : Pc P R) : Nat → Call D P R := upd s.call t { c with pc := pc }
  match c.pc with
  | .start =>
    match s.mutHolder with
    | none => some { s with mutHolder := some t, call := goto .locked }
    | some _ => none
  | .locked =>
    match s.cache.get c.key with
    | none => some { s with call := goto .miss }
    | some _ => some { s with call := goto .hit }
  | .miss =>
    match parse c.key with
    | none => some { s with call := goto .failUnlock }
    | some p => some { s with cache := s.cache.put c.key p, call := goto .hit }
  | .hit =>
    match s.cache.get c.key with
    | some p => some { s with call := goto (.gotUnlock p) }
    -- Go: a missing key yields the nil slice and the loop does not run; cannot happen (theorem)
    | none => none
  | .failUnlock => some { s with mutHolder := none, call := goto (.done none) }
  | .gotUnlock p => some { s with mutHolder := none, call := goto (.evalNext p) }
  | .evalNext p => some { s with call := goto (.done (some (eval p c.doc))) }
  | .done _ => none

inductive CReach {D P R : Type} (parse : String → Option P) (eval : P → D → R)
    (init : CSt D P R) : CSt D P R → Prop
  | refl : CReach parse eval init init
  | step {s s' t} : CReach parse eval init s → cstep parse eval s t = some s' →
      CReach parse eval init s'

def crun {D P R : Type} (parse : String → Option P) (eval : P → D → R)
    (s : CSt D P R) : List Nat → CSt D P R
  | [] => s
  | t :: ts => match cstep parse eval s t with
    | some s' => crun parse eval s' ts
    | none => crun parse eval s ts

/-- What a call returns when it runs alone (on any cache that is a sub-graph of `parse`). -/
def alone {D P R : Type} (parse : String → Option P) (eval : P → D → R) (doc : D) (key : String) :
    Option R :=
  (parse key).map (fun p => eval p doc)

/-- The instruction paths of the repaired `ExecReader` as the fact extractor reports them
    (below: cache hit, cache miss, parse error) — kept here as the reference shape;
    `Obligations/C13` states the same obligation on the freshly extracted paths. -/
def execReaderFixedPaths : List (List Instr) :=
  [ [.lock "mut", .read "cache", .read "cache", .unlock "mut"],
    [.lock "mut", .read "cache", .write "cache", .read "cache", .unlock "mut"],
    [.lock "mut", .read "cache", .unlock "mut"] ]

/-- The pinned tree (D31): `cache[selector]` is read after `mut.Unlock()`. -/
def execReaderPinnedPaths : List (List Instr) :=
  [ [.lock "mut", .read "cache", .unlock "mut", .read "cache"],
    [.lock "mut", .read "cache", .write "cache", .unlock "mut", .read "cache"],
    [.lock "mut", .read "cache", .unlock "mut"] ]

/-- `cache` is guarded by `mut`; nothing else is shared. -/
def execReaderGuard (x : String) : Option String :=
  if x = "cache" then some "mut" else none

/-- `ParallelJoinFunc` (join.go): the worker goroutines share the result slice and the first
    error, both guarded by the function-local mutex (called `jmut` here).  The main goroutine
    reads them only after `wg.Wait()`, i.e. after every worker has finished (the wait-group
    protocol of `Genql.Model.Async`). -/
def parallelJoinGuard (x : String) : Option String :=
  if x = "slice" ∨ x = "firstErr" then some "jmut" else none

/-- Worker paths with one critical section: match found; error / recovered panic (`fail`), first or later; no match. -/
def parallelJoinWorkerPaths : List (List Instr) :=
  [ [.lock "jmut", .read "slice", .write "slice", .unlock "jmut"],
    [.lock "jmut", .read "firstErr", .write "firstErr", .unlock "jmut"],
    [.lock "jmut", .read "firstErr", .unlock "jmut"],
    [] ]

end Genql.Conc

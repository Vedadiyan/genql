/-
  Invariant of the wait-group protocol model (`Genql.Model.Async`) and its preservation by every
  step of every thread.
-/
import Genql.Model.Async

namespace Genql.Async
variable {A V : Type}

/-! ### The model alone -/

@[simp] theorem upd_same {β : Type} (g : Nat → β) (i : Nat) (b : β) : upd g i b i = b := by simp [upd]
theorem upd_ne {β : Type} {g : Nat → β} {i j : Nat} {b : β} (h : j ≠ i) : upd g i b j = g j := by
  simp [upd, h]

theorem spawns_of_waited {st : Strategy} (h : st.waited = true) : st.spawns = true := by
  cases st <;> simp_all [Strategy.waited, Strategy.spawns]

theorem evalCall_rejected {q : Query A V} {s : St V} {added : Bool} (h : q.rejected s.pc = true) :
    evalCall q s added = { s with phase := .failed } :=
  if_pos h

theorem evalCall_col_ne (q : Query A V) (s : St V) (added : Bool) {c : Nat} (hne : c ≠ s.pc) :
    (evalCall q s added).col c = s.col c := by
  -- not `split`: it is slow on this test, whose other branch is the whole of `evalCall`; the bare
  -- `simp only` after `unfold` reduces `let c := s.pc` (likewise in `inv_evalCall`, `tinv_evalCall`)
  by_cases hrej : q.rejected s.pc = true
  · rw [evalCall_rejected hrej]
  · unfold evalCall
    simp only
    rw [if_neg hrej]
    -- every arm (ONCE has two) writes `col` at `s.pc` or not at all
    split <;> (try split) <;> simp only [upd_ne hne]

theorem run_reach (q : Query A V) : ∀ (sched : List Nat) (s : St V), Reach q s → Reach q (run q s sched)
  | [], _, r => r
  | t :: ts, s, r => by
    unfold run
    split
    · rename_i s' hs; exact run_reach q ts s' (.step r hs)
    · exact run_reach q ts s r

theorem run_append (q : Query A V) (s : St V) (a b : List Nat) :
    run q s (a ++ b) = run q (run q s a) b := by
  induction a generalizing s with
  | nil => rfl
  | cons t ts ih =>
    simp only [List.cons_append, run]
    split <;> exact ih _

/-- Converse of `run_reach`: what is proved of every `run q init sched` holds of every `Reach q s`. -/
theorem reach_run {q : Query A V} {s : St V} (r : Reach q s) : ∃ sched, run q init sched = s := by
  induction r with
  | init => exact ⟨[], rfl⟩
  | step _ st ih =>
    rename_i s1 s2 t _
    obtain ⟨sched, hs⟩ := ih
    refine ⟨sched ++ [t], ?_⟩
    rw [run_append, hs]
    simp [run, st]

/-! ### Counting open goroutines -/

def Task.isOpen : Task → Bool
  | .pending | .ran | .stored => true
  | _ => false

theorem started_of_open {t : Task} (h : t.isOpen = true) : t ≠ .unspawned := by
  intro e; rw [e] at h; cases h

theorem done_of_not_open {t : Task} (h1 : t.isOpen = false) (h2 : t ≠ .unspawned) : t = .done := by
  cases t <;> simp_all [Task.isOpen]

/-- `1` if call `c` is registered with the wait group and its goroutine has not called `Done`. -/
def wgt (q : Query A V) (task : Nat → Task) (c : Nat) : Nat :=
  if (q.strat c).waited && (task c).isOpen then 1 else 0

section
variable {q : Query A V} {task : Nat → Task} {c : Nat}

theorem wgt_eq_one (hw : (q.strat c).waited = true) (ho : (task c).isOpen = true) :
    wgt q task c = 1 := by
  simp [wgt, hw, ho]

theorem wgt_eq_zero_of_not_waited (hw : (q.strat c).waited = false) : wgt q task c = 0 := by
  simp [wgt, hw]

theorem wgt_eq_zero_of_not_open (ho : (task c).isOpen = false) : wgt q task c = 0 := by
  simp [wgt, ho]

theorem wgt_pos (h : 0 < wgt q task c) : (q.strat c).waited = true ∧ (task c).isOpen = true := by
  unfold wgt at h
  split at h
  · rename_i hh; simpa using hh
  · cases h

theorem wgt_upd_ne {k : Nat} {x : Task} (h : k ≠ c) : wgt q (upd task c x) k = wgt q task k := by
  simp only [wgt, upd_ne h]

theorem wgt_upd_same {x : Task} (h : x.isOpen = (task c).isOpen) :
    wgt q (upd task c x) c = wgt q task c := by
  simp only [wgt, upd_same, h]

/-- `wg.Done()` of a waited goroutine.  The truncated `wg - 1` is exact because the call is counted. -/
theorem wgt_done {wg : Nat} (hw : (q.strat c).waited = true) (ho : (task c).isOpen = true)
    (hle : wgt q task c ≤ wg) : wg - 1 + wgt q task c = wg + wgt q (upd task c .done) c := by
  rw [wgt_eq_one hw ho] at hle ⊢
  rw [wgt_eq_zero_of_not_open (by rw [upd_same]; rfl)]
  omega

end

/-- Number of waited-for goroutines among calls `< k` that are started and not done.  The invariant
    counts up to `pc`, not `total`: `go` is then one unfolding of `openC (pc + 1)`, and nothing is
    started from `pc` on (`openC_eq_of_unspawned_ge`). -/
def openC (q : Query A V) (task : Nat → Task) : Nat → Nat
  | 0 => 0
  | k + 1 => openC q task k + wgt q task k

theorem openC_upd_ge (q : Query A V) (task : Nat → Task) (c : Nat) (x : Task) :
    ∀ k, k ≤ c → openC q (upd task c x) k = openC q task k
  | 0, _ => rfl
  | k + 1, h => by
    have hk : k ≠ c := by omega
    rw [openC, openC, openC_upd_ge q task c x k (by omega), wgt_upd_ne hk]

theorem openC_upd_lt (q : Query A V) (task : Nat → Task) (c : Nat) (x : Task) :
    ∀ k, c < k → openC q (upd task c x) k + wgt q task c = openC q task k + wgt q (upd task c x) c
  | 0, h => by omega
  | k + 1, h => by
    by_cases hk : k = c
    · subst hk
      simp only [openC, openC_upd_ge q task k x k (Nat.le_refl k)]
      omega
    · have ih := openC_upd_lt q task c x k (by omega)
      simp only [openC, wgt_upd_ne hk]
      omega

/-- `openC_upd_lt` with the task reset to unspawned. -/
theorem wgt_le_openC (q : Query A V) (task : Nat → Task) (c k : Nat) (hc : c < k) :
    wgt q task c ≤ openC q task k := by
  have := openC_upd_lt q task c .unspawned k hc
  have : wgt q (upd task c .unspawned) c = 0 := wgt_eq_zero_of_not_open (by rw [upd_same]; rfl)
  omega

theorem openC_pos (q : Query A V) (task : Nat → Task) :
    ∀ k, 0 < openC q task k → ∃ c, c < k ∧ (q.strat c).waited = true ∧ (task c).isOpen = true
  | 0, h => by simp [openC] at h
  | k + 1, h => by
    simp only [openC] at h
    by_cases hk : 0 < openC q task k
    · obtain ⟨c, h1, h2⟩ := openC_pos q task k hk
      exact ⟨c, by omega, h2⟩
    · exact ⟨k, by omega, wgt_pos (by omega)⟩

theorem openC_eq_of_unspawned_ge (q : Query A V) (task : Nat → Task) (a : Nat)
    (h : ∀ c, a ≤ c → task c = .unspawned) : ∀ k, a ≤ k → openC q task k = openC q task a
  | 0, hk => by have : a = 0 := by omega
                subst this; rfl
  | k + 1, hk => by
    by_cases e : a = k + 1
    · subst e; rfl
    · rw [openC, wgt_eq_zero_of_not_open (by rw [h k (by omega)]; rfl)]
      exact openC_eq_of_unspawned_ge q task a h k (by omega)

theorem openC_eq_zero_iff {q : Query A V} {task : Nat → Task} {k : Nat} :
    openC q task k = 0 ↔ ∀ c, c < k → (q.strat c).waited = true → (task c).isOpen = false := by
  constructor
  · intro h c hc hw
    have := wgt_le_openC q task c k hc
    cases ho : (task c).isOpen
    · rfl
    · rw [wgt_eq_one hw ho, h] at this; cases this
  · intro h
    refine Nat.eq_zero_of_not_pos fun hp => ?_
    obtain ⟨c, hc, hw, ho⟩ := openC_pos q task k hp
    rw [h c hc hw] at ho; cases ho

/-! ### The invariant -/

/-- Post-processors that have been registered and have not run yet. -/
def pendingPosts (s : St V) : List Nat :=
  match s.phase with
  | .run _ => s.posts
  | .post rest => rest
  | .returned => []
  | .failed => s.posts

theorem pendingPosts_run {s : St V} {a : Bool} (hph : s.phase = .run a) :
    pendingPosts s = s.posts := by
  rw [pendingPosts, hph]

/-- Main goroutine is past `wg.Wait()`. -/
def Phase.past : Phase → Bool
  | .post _ | .returned => true
  | _ => false

/-- What the state of a goroutine says about the call counter and the captured variable (`.done`:
    only the goroutine of an ASYNC call has stored something). -/
def taskOk (q : Query A V) (s : St V) (c : Nat) : Prop :=
  match s.task c with
  | .unspawned => s.invoked c = 0 ∧ s.slot c = none
  | .pending => s.invoked c = 0 ∧ s.slot c = none
  | .ran => s.invoked c = 1 ∧ s.slot c = none
  | .stored => s.invoked c = 1 ∧ q.strat c = .async ∧ s.slot c = some (q.value c)
  | .done => s.invoked c = 1 ∧ (q.strat c = .async → s.slot c = some (q.value c))

theorem taskOk.invoked_le_one {q : Query A V} {s : St V} {c : Nat} (h : taskOk q s c) :
    s.invoked c ≤ 1 := by
  unfold taskOk at h
  cases ht : s.task c <;> simp only [ht] at h <;> omega

/-- The ONCE memo of function `m` is empty until the ghost `onceFirst m` is set; from then on it holds
    the value of that one call, which lies behind `pc`, and the count is 1. -/
def memoOk (q : Query A V) (s : St V) (m : Nat) : Prop :=
  match s.onceFirst m with
  | none => s.memo m = none ∧ s.onceCount m = 0
  | some c0 => c0 < s.pc ∧ q.strat c0 = .once ∧ q.name c0 = m ∧
      s.memo m = some (q.value c0) ∧ s.onceCount m = 1

theorem memoOk_mono {q : Query A V} {s s' : St V} {m : Nat} (h : memoOk q s m)
    (h1 : s'.onceFirst m = s.onceFirst m) (h2 : s'.memo m = s.memo m)
    (h3 : s'.onceCount m = s.onceCount m) (h4 : s.pc ≤ s'.pc) : memoOk q s' m := by
  unfold memoOk at *
  rw [h1, h2, h3]
  cases hf : s.onceFirst m with
  | none => simpa [hf] using h
  | some c0 =>
    simp only [hf] at h ⊢
    exact ⟨by omega, h.2⟩

/-- Nothing is said of `slot c` once the goroutine of a SPIN or SPINASYNC call is `.done` (see `taskOk`): only the
    post-processor of an ASYNC call reads a slot. -/
structure Inv (q : Query A V) (s : St V) : Prop where
  pc_le : s.pc ≤ q.total
  past_pc : s.phase.past = true → s.pc = q.total
  added : s.phase = .run true → s.pc < q.total ∧ (q.strat s.pc).waited = true ∧ q.rejected s.pc = false
  wgc : s.wg = openC q s.task s.pc + (if s.phase = .run true then 1 else 0)
  ahead : ∀ c, s.pc ≤ c → s.task c = .unspawned ∧ s.invoked c = 0 ∧ s.col c = .absent
  behind : ∀ c, c < s.pc → q.rejected c = false
  spawned : ∀ c, c < s.pc → (q.strat c).spawns = true → s.task c ≠ .unspawned
  -- an unqualified or ONCE call never has a goroutine or a captured variable
  inline : ∀ c, (q.strat c).spawns = false → s.task c = .unspawned ∧ s.slot c = none
  tstate : ∀ c, (q.strat c).spawns = true → taskOk q s c
  alldone : s.phase.past = true → ∀ c, c < q.total → (q.strat c).waited = true → s.task c = .done
  plainc : ∀ c, c < s.pc → q.strat c = .plain → s.invoked c = 1 ∧ s.col c = .val (some (q.value c))
  nocol : ∀ c, (q.strat c = .spin ∨ q.strat c = .spinasync) → s.col c = .absent
  -- the column of an evaluated ASYNC call: the `*any` pointer, then (post-processor run) the value
  acol : ∀ c, c < s.pc → q.strat c = .async → s.col c = .ptr ∨ s.col c = .val (some (q.value c))
  -- a pointer is still in a column only while its post-processor is to come
  aptr : ∀ c, s.col c = .ptr → c ∈ pendingPosts s
  -- only evaluated ASYNC calls have a post-processor to come
  pend : ∀ c, c ∈ pendingPosts s → c < s.pc ∧ q.strat c = .async
  omemo : ∀ m, memoOk q s m
  -- an evaluated ONCE call shows the value of the call `c0` that filled its function's memo; only `c0` invoked it
  ocall : ∀ c, c < s.pc → q.strat c = .once → ∃ c0, s.onceFirst (q.name c) = some c0 ∧ c0 ≤ c ∧
    s.col c = .val (some (q.value c0)) ∧ s.invoked c = (if c0 = c then 1 else 0)

theorem inv_init (q : Query A V) : Inv q (init : St V) where
  pc_le := Nat.zero_le _
  past_pc := nofun
  added := nofun
  wgc := by simp [init, openC]
  ahead := by simp [init]
  behind := by simp [init]
  spawned := by simp [init]
  inline := by simp [init]
  tstate := by simp [init, taskOk]
  alldone := nofun
  plainc := by simp [init]
  nocol := by simp [init]
  acol := by simp [init]
  aptr := by simp [init]
  pend := by simp [init, pendingPosts]
  omemo := by simp [init, memoOk]
  ocall := by simp [init]

theorem Inv.lt_of_started {q : Query A V} {s : St V} (h : Inv q s) {c : Nat}
    (hc : s.task c ≠ .unspawned) : c < s.pc :=
  Nat.lt_of_not_le fun hn => hc (h.ahead c hn).1

theorem Inv.spawns_of_started {q : Query A V} {s : St V} (h : Inv q s) {c : Nat}
    (hc : s.task c ≠ .unspawned) : (q.strat c).spawns = true := by
  cases hs : (q.strat c).spawns
  · exact absurd (h.inline c hs).1 hc
  · rfl

theorem Inv.run_false {q : Query A V} {s : St V} (h : Inv q s) {added : Bool}
    (hph : s.phase = .run added)
    (hn : ¬ s.pc < q.total ∨ (q.strat s.pc).waited = false ∨ q.rejected s.pc = true) :
    added = false := by
  cases added
  · rfl
  · obtain ⟨h1, h2, h3⟩ := h.added hph
    rcases hn with x | x | x
    · exact absurd h1 x
    · rw [h2] at x; cases x
    · rw [h3] at x; cases x

/-- Only the goroutine of an ASYNC call stores its result. -/
theorem Inv.async_of_stored {q : Query A V} {s : St V} (h : Inv q s) {c : Nat}
    (ht : s.task c = .stored) : q.strat c = .async := by
  have := h.tstate c (h.spawns_of_started (by rw [ht]; exact Task.noConfusion))
  simp only [taskOk, ht] at this
  exact this.2.1

theorem Inv.of_done {q : Query A V} {s : St V} (h : Inv q s) {c : Nat} (ht : s.task c = .done) :
    s.invoked c = 1 ∧ (q.strat c = .async → s.slot c = some (q.value c)) := by
  have := h.tstate c (h.spawns_of_started (by rw [ht]; exact Task.noConfusion))
  rwa [taskOk, ht] at this

theorem Inv.aptr_run {q : Query A V} {s : St V} (h : Inv q s) {a : Bool} (hph : s.phase = .run a) :
    ∀ c, s.col c = .ptr → c ∈ s.posts :=
  pendingPosts_run hph ▸ h.aptr

theorem Inv.pend_run {q : Query A V} {s : St V} (h : Inv q s) {a : Bool} (hph : s.phase = .run a) :
    ∀ c, c ∈ s.posts → c < s.pc ∧ q.strat c = .async :=
  pendingPosts_run hph ▸ h.pend

/-- Outside the window between `wg.Add(1)` and `go`, the counter is the number of open waited
    goroutines. -/
theorem Inv.wg_eq {q : Query A V} {s : St V} (h : Inv q s) (hne : s.phase ≠ .run true) :
    s.wg = openC q s.task s.pc := by
  rw [h.wgc, if_neg hne]; rfl

theorem Inv.wgt_le_wg {q : Query A V} {s : St V} (h : Inv q s) {c : Nat} (hc : c < s.pc) :
    wgt q s.task c ≤ s.wg := by
  rw [h.wgc]; exact Nat.le_add_right_of_le (wgt_le_openC q s.task c s.pc hc)

theorem Inv.wg_past {q : Query A V} {s : St V} (h : Inv q s) (hp : s.phase.past = true) :
    s.wg = 0 := by
  have hne : s.phase ≠ .run true := by intro e; rw [e] at hp; cases hp
  rw [h.wg_eq hne, openC_eq_zero_iff.2 fun c hc hw => ?_]
  rw [h.alldone hp c (Nat.lt_of_lt_of_le hc h.pc_le) hw]; rfl

/-! ### Steps of a spawned goroutine -/

/-- The goroutine of call `c` moves to `x`.  What the step writes besides (`iv`, `sl`, `w`) is left
    open and constrained only off `c`, so that every arm of `stepTask` is an instance as it stands.
    `hw` may assume that the call is counted: `Done` writes the truncated `s.wg - 1` (`wgt_done`). -/
theorem inv_task {q : Query A V} {s : St V} (h : Inv q s) (c : Nat) (x : Task) (iv : Nat → Nat)
    (sl : Nat → Option V) (w : Nat)
    (hiv : ∀ c', c' ≠ c → iv c' = s.invoked c') (hsl : ∀ c', c' ≠ c → sl c' = s.slot c')
    (hopen : (s.task c).isOpen = true) (hx : x ≠ .unspawned)
    (hok : taskOk q s c →
      taskOk q { s with task := upd s.task c x, invoked := iv, slot := sl, wg := w } c)
    (hw : wgt q s.task c ≤ s.wg → w + wgt q s.task c = s.wg + wgt q (upd s.task c x) c) :
    Inv q { s with task := upd s.task c x, invoked := iv, slot := sl, wg := w } := by
  have hst := started_of_open hopen
  have hlt : c < s.pc := h.lt_of_started hst
  have hsp : (q.strat c).spawns = true := h.spawns_of_started hst
  have hne_of : ∀ {c'}, (q.strat c').spawns = false → c' ≠ c := by
    intro c' hs' e; subst e; rw [hsp] at hs'; cases hs'
  exact
  { h with
    wgc := by
      have e1 := openC_upd_lt q s.task c x s.pc hlt
      have e2 := h.wgc
      have e3 := hw (h.wgt_le_wg hlt)
      show w = openC q (upd s.task c x) s.pc + (if s.phase = .run true then 1 else 0)
      omega
    ahead := fun c' hc' => by
      have hne : c' ≠ c := by have : s.pc ≤ c' := hc'; omega
      simpa only [upd_ne hne, hiv c' hne] using h.ahead c' hc'
    spawned := fun c' hc' hs' => by
      by_cases hne : c' = c
      · subst hne; simpa using hx
      · simpa only [upd_ne hne] using h.spawned c' hc' hs'
    inline := fun c' hs' => by
      have hne := hne_of hs'
      simpa only [upd_ne hne, hsl c' hne] using h.inline c' hs'
    tstate := fun c' hs' => by
      by_cases hne : c' = c
      · subst hne; exact hok (h.tstate c' hs')
      · simpa only [taskOk, upd_ne hne, hiv c' hne, hsl c' hne] using h.tstate c' hs'
    alldone := fun hp c' hc' hw' => by
      have hne : c' ≠ c := by
        intro e; subst e
        rw [h.alldone hp c' hc' hw'] at hopen; cases hopen
      simpa only [upd_ne hne] using h.alldone hp c' hc' hw'
    plainc := fun c' hc' hs' => by
      have hne : c' ≠ c := hne_of (by rw [hs']; rfl)
      simpa only [hiv c' hne] using h.plainc c' hc' hs'
    ocall := fun c' hc' hs' => by
      have hne : c' ≠ c := hne_of (by rw [hs']; rfl)
      simpa only [hiv c' hne] using h.ocall c' hc' hs' }

theorem inv_stepTask {q : Query A V} {s s' : St V} {c : Nat} (h : Inv q s)
    (st : stepTask q s c = some s') : Inv q s' := by
  unfold stepTask at st
  split at st
  · -- pending → ran
    rename_i ht
    cases st
    exact inv_task h c .ran _ s.slot s.wg (fun _ hne => upd_ne hne) (fun _ _ => rfl)
      (by rw [ht]; rfl) Task.noConfusion
      (fun hok => by simp only [taskOk, ht] at hok; simp [taskOk, hok.1, hok.2])
      (fun _ => by rw [wgt_upd_same (by rw [ht]; rfl)])
  · -- ran → stored (ASYNC)
    rename_i ht hs
    cases st
    exact inv_task h c .stored s.invoked _ s.wg (fun _ _ => rfl) (fun _ hne => upd_ne hne)
      (by rw [ht]; rfl) Task.noConfusion
      (fun hok => by simp only [taskOk, ht] at hok; simp [taskOk, hok.1, hs])
      (fun _ => by rw [wgt_upd_same (by rw [ht]; rfl)])
  · -- ran → done (SPINASYNC), `wg.Done()`
    rename_i ht hs
    cases st
    exact inv_task h c .done s.invoked s.slot (s.wg - 1) (fun _ _ => rfl) (fun _ _ => rfl)
      (by rw [ht]; rfl) Task.noConfusion
      (fun hok => by simp only [taskOk, ht] at hok; simp [taskOk, hok.1, hs])
      (wgt_done (by rw [hs]; rfl) (by rw [ht]; rfl))
  · -- ran → done (SPIN)
    rename_i ht hs
    cases st
    have hnw : (q.strat c).waited = false := by rw [hs]; rfl
    exact inv_task h c .done s.invoked s.slot s.wg (fun _ _ => rfl) (fun _ _ => rfl)
      (by rw [ht]; rfl) Task.noConfusion
      (fun hok => by simp only [taskOk, ht] at hok; simp [taskOk, hok.1, hs])
      (fun _ => by rw [wgt_eq_zero_of_not_waited hnw, wgt_eq_zero_of_not_waited hnw])
  · -- stored → done (ASYNC), `wg.Done()`
    rename_i ht
    cases st
    have hs := h.async_of_stored ht
    exact inv_task h c .done s.invoked s.slot (s.wg - 1) (fun _ _ => rfl) (fun _ _ => rfl)
      (by rw [ht]; rfl) Task.noConfusion
      (fun hok => by simp only [taskOk, ht] at hok; simp [taskOk, hok.1, hok.2.2])
      (wgt_done (by rw [hs]; rfl) (by rw [ht]; rfl))
  · cases st

/-! ### Steps of the main goroutine -/

/-- `wg.Add(1)` of a waited call. -/
theorem inv_add {q : Query A V} {s : St V} (h : Inv q s) (hph : s.phase = .run false)
    (hlt : s.pc < q.total) (hrej : q.rejected s.pc = false) (hw : (q.strat s.pc).waited = true) :
    Inv q { s with phase := .run true, wg := s.wg + 1 } :=
  { h with
    past_pc := nofun
    added := fun _ => ⟨hlt, hw, hrej⟩
    wgc := congrArg (· + 1) (h.wg_eq (by rw [hph]; nofun))
    alldone := nofun
    aptr := h.aptr_run hph
    pend := h.pend_run hph }

/-- An immediate function with a goroutine qualifier: `Exec` fails. -/
theorem inv_reject {q : Query A V} {s : St V} (h : Inv q s) (hph : s.phase = .run false) :
    Inv q { s with phase := .failed } :=
  { h with
    past_pc := nofun
    added := nofun
    wgc := h.wg_eq (by rw [hph]; nofun)
    alldone := nofun
    aptr := h.aptr_run hph
    pend := h.pend_run hph }

/-- `wg.Wait()` returns. -/
theorem inv_wait {q : Query A V} {s : St V} (h : Inv q s) (hph : s.phase = .run false)
    (hpc : ¬ s.pc < q.total) (hwg : s.wg = 0) : Inv q { s with phase := .post s.posts } := by
  have hpc' : s.pc = q.total := by have := h.pc_le; omega
  have hopen : openC q s.task s.pc = 0 := by rw [← h.wg_eq (by rw [hph]; nofun)]; exact hwg
  exact
  { h with
    past_pc := fun _ => hpc'
    added := nofun
    wgc := hwg.trans hopen.symm
    alldone := fun _ c hc hw =>
      have hc' : c < s.pc := by omega
      done_of_not_open (openC_eq_zero_iff.1 hopen c hc' hw) (h.spawned c hc' (spawns_of_waited hw))
    aptr := h.aptr_run hph
    pend := h.pend_run hph }

/-- The last post-processor has run: `Exec` returns. -/
theorem inv_return {q : Query A V} {s : St V} (h : Inv q s) (hph : s.phase = .post []) :
    Inv q { s with phase := .returned } :=
  have hpast : s.phase.past = true := by rw [hph]; rfl
  { h with
    past_pc := fun _ => h.past_pc hpast
    added := nofun
    wgc := h.wg_eq (by rw [hph]; nofun)
    alldone := fun _ => h.alldone hpast
    aptr := by simpa [pendingPosts, hph] using h.aptr
    pend := by simp [pendingPosts] }

/-- One post-processor copies the captured variable into the row. -/
theorem inv_post {q : Query A V} {s : St V} {c : Nat} {rest : List Nat} (h : Inv q s)
    (hph : s.phase = .post (c :: rest)) :
    Inv q { s with phase := .post rest, col := upd s.col c (.val (s.slot c)) } := by
  have hpast : s.phase.past = true := by rw [hph]; rfl
  have hc := h.pend c (by simp [pendingPosts, hph])
  have hpc := h.past_pc hpast
  have hdone := h.alldone hpast c (by omega) (by rw [hc.2]; rfl)
  have hslot : s.slot c = some (q.value c) := (h.of_done hdone).2 hc.2
  -- only an ASYNC call behind `pc` has its column rewritten
  have hne_of : ∀ {c'}, q.strat c' ≠ .async → c' ≠ c := fun hs' e => hs' (e ▸ hc.2)
  exact
  { h with
    past_pc := fun _ => hpc
    added := nofun
    wgc := h.wg_eq (by rw [hph]; nofun)
    ahead := fun c' hc' => by
      have hne : c' ≠ c := by have : s.pc ≤ c' := hc'; omega
      simpa only [upd_ne hne] using h.ahead c' hc'
    alldone := fun _ => h.alldone hpast
    plainc := fun c' hc' hs' => by
      have hne : c' ≠ c := hne_of (by simp [hs'])
      simpa only [upd_ne hne] using h.plainc c' hc' hs'
    nocol := fun c' hs' => by
      have hne : c' ≠ c := hne_of (by rcases hs' with x | x <;> simp [x])
      simpa only [upd_ne hne] using h.nocol c' hs'
    acol := fun c' hc' hs' => by
      by_cases hne : c' = c
      · subst hne; simp [hslot]
      · simpa only [upd_ne hne] using h.acol c' hc' hs'
    aptr := fun c' hp => by
      by_cases hne : c' = c
      · subst hne; simp at hp
      · have := h.aptr c' (by simpa only [upd_ne hne] using hp)
        simpa [pendingPosts, hph, hne] using this
    pend := fun c' hm => h.pend c' (by
      have hm' : c' ∈ rest := hm
      simp [pendingPosts, hph, hm'])
    ocall := fun c' hc' hs' => by
      have hne : c' ≠ c := hne_of (by simp [hs'])
      simpa only [upd_ne hne] using h.ocall c' hc' hs' }

/-- `go func(){…}()` for the current call (after `wg.Add(1)` when it is waited for); `cl`/`ps`
    are the new columns and post-processor list: an ASYNC call gets the pointer and registers its
    post-processor. -/
theorem inv_spawn {q : Query A V} {s : St V} (h : Inv q s) (cl : Nat → Cell V) (ps : List Nat)
    (hph : s.phase = .run (q.strat s.pc).waited) (hlt : s.pc < q.total)
    (hrej : q.rejected s.pc = false) (hsp : (q.strat s.pc).spawns = true)
    (hA : q.strat s.pc = .async → cl = upd s.col s.pc .ptr ∧ ps = s.posts ++ [s.pc])
    (hN : q.strat s.pc ≠ .async → cl = s.col ∧ ps = s.posts) :
    Inv q { s with pc := s.pc + 1, phase := .run false, task := upd s.task s.pc .pending,
                   col := cl, posts := ps } := by
  have hah := h.ahead s.pc (Nat.le_refl _)
  have hcl : ∀ c', c' ≠ s.pc → cl c' = s.col c' := by
    intro c' hne
    by_cases ha : q.strat s.pc = .async
    · rw [(hA ha).1, upd_ne hne]
    · rw [(hN ha).1]
  have hps : ∀ c', c' ∈ ps ↔ c' ∈ s.posts ∨ (c' = s.pc ∧ q.strat s.pc = .async) := by
    intro c'
    by_cases ha : q.strat s.pc = .async
    · simp [(hA ha).2, ha]
    · simp [(hN ha).2, ha]
  have hne_of : ∀ {c'}, (q.strat c').spawns = false → c' ≠ s.pc := by
    intro c' hs' e; subst e; rw [hsp] at hs'; cases hs'
  have hlt_of : ∀ {c'}, c' < s.pc + 1 → c' ≠ s.pc → c' < s.pc := by omega
  exact
  { h with
    pc_le := hlt
    past_pc := nofun
    added := nofun
    wgc := by
      have e := h.wgc
      rw [hph] at e
      simp only [openC, openC_upd_ge q s.task s.pc .pending s.pc (Nat.le_refl _)]
      cases hw : (q.strat s.pc).waited
      · simpa [hw, wgt_eq_zero_of_not_waited hw] using e
      · have : wgt q (upd s.task s.pc .pending) s.pc = 1 := wgt_eq_one hw (by rw [upd_same]; rfl)
        simpa [hw, this] using e
    ahead := fun c' hc' => by
      have hc'' : s.pc + 1 ≤ c' := hc'
      have hne : c' ≠ s.pc := by omega
      simpa only [upd_ne hne, hcl c' hne] using h.ahead c' (by omega)
    behind := fun c' hc' => by
      by_cases hne : c' = s.pc
      · subst hne; exact hrej
      · exact h.behind c' (hlt_of hc' hne)
    spawned := fun c' hc' hs' => by
      by_cases hne : c' = s.pc
      · subst hne; simp
      · simpa only [upd_ne hne] using h.spawned c' (hlt_of hc' hne) hs'
    inline := fun c' hs' => by
      simpa only [upd_ne (hne_of hs')] using h.inline c' hs'
    tstate := fun c' hs' => by
      by_cases hne : c' = s.pc
      · subst hne
        have := h.tstate _ hs'
        simp only [taskOk, hah.1] at this
        simpa [taskOk] using this
      · simpa only [taskOk, upd_ne hne] using h.tstate c' hs'
    alldone := nofun
    plainc := fun c' hc' hs' => by
      have hne : c' ≠ s.pc := hne_of (by rw [hs']; rfl)
      simpa only [hcl c' hne] using h.plainc c' (hlt_of hc' hne) hs'
    nocol := fun c' hs' => by
      by_cases hne : c' = s.pc
      · subst hne
        have : q.strat s.pc ≠ .async := by rcases hs' with x | x <;> simp [x]
        simpa [(hN this).1] using hah.2.2
      · simpa only [hcl c' hne] using h.nocol c' hs'
    acol := fun c' hc' hs' => by
      by_cases hne : c' = s.pc
      · subst hne; simp [(hA hs').1]
      · simpa only [hcl c' hne] using h.acol c' (hlt_of hc' hne) hs'
    aptr := fun c' hp => by
      show c' ∈ ps
      rw [hps]
      by_cases hne : c' = s.pc
      · subst hne
        refine Or.inr ⟨rfl, Classical.byContradiction fun ha => ?_⟩
        have hp' : cl s.pc = .ptr := hp
        rw [(hN ha).1, hah.2.2] at hp'; cases hp'
      · have hp' : cl c' = .ptr := hp
        exact Or.inl (h.aptr_run hph c' (hcl c' hne ▸ hp'))
    pend := fun c' hm => by
      show c' < s.pc + 1 ∧ _
      rcases (hps c').1 hm with x | x
      · have := h.pend_run hph c' x
        exact ⟨by omega, this.2⟩
      · exact ⟨by omega, by rw [x.1]; exact x.2⟩
    omemo := fun m => memoOk_mono (h.omemo m) rfl rfl rfl (Nat.le_succ _)
    ocall := fun c' hc' hs' => by
      have hne : c' ≠ s.pc := hne_of (by rw [hs']; rfl)
      simpa only [hcl c' hne] using h.ocall c' (hlt_of hc' hne) hs' }

/-- Inline evaluation (unqualified or ONCE) of the current call leaves `v` in its column; `iv`
    differs from `s.invoked` at most at `s.pc`.  Everything except the two ONCE clauses, which
    the caller supplies. -/
theorem inv_inline {q : Query A V} {s : St V} (h : Inv q s) (iv : Nat → Nat) (v : V)
    (memo : Nat → Option V) (oc : Nat → Nat) (ofi : Nat → Option Nat)
    (hiv : ∀ c, c ≠ s.pc → iv c = s.invoked c)
    (hph : s.phase = .run false) (hlt : s.pc < q.total)
    (hrej : q.rejected s.pc = false) (hsp : (q.strat s.pc).spawns = false)
    (hpl : q.strat s.pc = .plain → iv s.pc = 1 ∧ v = q.value s.pc)
    (hom : ∀ m, memoOk q { s with pc := s.pc + 1, invoked := iv, memo := memo, onceCount := oc,
                                  onceFirst := ofi, col := upd s.col s.pc (.val (some v)) } m)
    (hoc : ∀ c, c < s.pc + 1 → q.strat c = .once → ∃ c0, ofi (q.name c) = some c0 ∧ c0 ≤ c ∧
      upd s.col s.pc (.val (some v)) c = .val (some (q.value c0)) ∧
      iv c = (if c0 = c then 1 else 0)) :
    Inv q { s with pc := s.pc + 1, invoked := iv, col := upd s.col s.pc (.val (some v)),
                   memo := memo, onceCount := oc, onceFirst := ofi } := by
  have hnw : (q.strat s.pc).waited = false := by
    cases hw : (q.strat s.pc).waited
    · rfl
    · rw [spawns_of_waited hw] at hsp; cases hsp
  have hne_of : ∀ {c'}, (q.strat c').spawns = true → c' ≠ s.pc := by
    intro c' hs' e; subst e; rw [hsp] at hs'; cases hs'
  have hlt_of : ∀ {c'}, c' < s.pc + 1 → c' ≠ s.pc → c' < s.pc := by omega
  exact
  { h with
    pc_le := hlt
    past_pc := by simp [hph, Phase.past]
    added := by simp [hph]
    wgc := by
      have e := h.wgc
      simp only [hph] at e
      simp [hph, openC, wgt_eq_zero_of_not_waited hnw, e]
    ahead := fun c' hc' => by
      have hc'' : s.pc + 1 ≤ c' := hc'
      have hne : c' ≠ s.pc := by omega
      simpa only [upd_ne hne, hiv c' hne] using h.ahead c' (by omega)
    behind := fun c' hc' => by
      by_cases hne : c' = s.pc
      · subst hne; exact hrej
      · exact h.behind c' (hlt_of hc' hne)
    spawned := fun c' hc' hs' => h.spawned c' (hlt_of hc' (hne_of hs')) hs'
    tstate := fun c' hs' => by
      simpa only [taskOk, hiv c' (hne_of hs')] using h.tstate c' hs'
    alldone := by simp [hph, Phase.past]
    plainc := fun c' hc' hs' => by
      by_cases hne : c' = s.pc
      · subst hne
        have := hpl hs'
        simp [this.1, this.2]
      · simpa only [upd_ne hne, hiv c' hne] using h.plainc c' (hlt_of hc' hne) hs'
    nocol := fun c' hs' => by
      have hne : c' ≠ s.pc := hne_of (by rcases hs' with x | x <;> rw [x] <;> rfl)
      simpa only [upd_ne hne] using h.nocol c' hs'
    acol := fun c' hc' hs' => by
      have hne : c' ≠ s.pc := hne_of (by rw [hs']; rfl)
      simpa only [upd_ne hne] using h.acol c' (hlt_of hc' hne) hs'
    aptr := fun c' hp => by
      by_cases hne : c' = s.pc
      · subst hne; simp at hp
      · exact h.aptr c' (by simpa only [upd_ne hne] using hp)
    pend := fun c' hm => by
      have := h.pend c' hm
      exact ⟨by show c' < s.pc + 1; omega, this.2⟩
    omemo := hom
    ocall := hoc }

theorem inv_plain {q : Query A V} {s : St V} (h : Inv q s)
    (hph : s.phase = .run false) (hlt : s.pc < q.total)
    (hrej : q.rejected s.pc = false) (hs : q.strat s.pc = .plain) :
    Inv q { s with pc := s.pc + 1, invoked := upd s.invoked s.pc (s.invoked s.pc + 1),
                   col := upd s.col s.pc (.val (some (q.value s.pc))) } := by
  have hah := h.ahead s.pc (Nat.le_refl _)
  refine inv_inline h (upd s.invoked s.pc (s.invoked s.pc + 1)) (q.value s.pc) s.memo s.onceCount
    s.onceFirst (fun _ hne => upd_ne hne) hph hlt hrej (by rw [hs]; rfl)
    (fun _ => ⟨by simp [hah.2.1], rfl⟩)
    (fun m => memoOk_mono (h.omemo m) rfl rfl rfl (Nat.le_succ _)) ?_
  intro c hc hso
  have hne : c ≠ s.pc := by intro e; subst e; rw [hs] at hso; cases hso
  simpa only [upd_ne hne] using h.ocall c (by omega) hso

theorem inv_once_hit {q : Query A V} {s : St V} {v : V} (h : Inv q s)
    (hph : s.phase = .run false) (hlt : s.pc < q.total)
    (hrej : q.rejected s.pc = false) (hs : q.strat s.pc = .once)
    (hm : s.memo (q.name s.pc) = some v) :
    Inv q { s with pc := s.pc + 1, col := upd s.col s.pc (.val (some v)) } := by
  have hah := h.ahead s.pc (Nat.le_refl _)
  have hmo := h.omemo (q.name s.pc)
  unfold memoOk at hmo
  cases hf : s.onceFirst (q.name s.pc) with
  | none => simp [hf, hm] at hmo
  | some c0 =>
    simp only [hf] at hmo
    have hv : v = q.value c0 := by
      have := hmo.2.2.2.1; rw [hm] at this; exact Option.some.inj this
    refine inv_inline h s.invoked v s.memo s.onceCount s.onceFirst (fun _ _ => rfl) hph hlt hrej
      (by rw [hs]; rfl) (fun e => by rw [hs] at e; cases e)
      (fun m => memoOk_mono (h.omemo m) rfl rfl rfl (Nat.le_succ _)) ?_
    intro c hc hso
    by_cases hne : c = s.pc
    · subst hne
      refine ⟨c0, hf, by omega, by simp [hv], ?_⟩
      have : c0 ≠ s.pc := by omega
      simp [hah.2.1, this]
    · simpa only [upd_ne hne] using h.ocall c (by omega) hso

theorem inv_once_miss {q : Query A V} {s : St V} (h : Inv q s)
    (hph : s.phase = .run false) (hlt : s.pc < q.total)
    (hrej : q.rejected s.pc = false) (hs : q.strat s.pc = .once)
    (hm : s.memo (q.name s.pc) = none) :
    Inv q { s with pc := s.pc + 1, invoked := upd s.invoked s.pc (s.invoked s.pc + 1),
                   onceCount := upd s.onceCount (q.name s.pc) (s.onceCount (q.name s.pc) + 1),
                   onceFirst := upd s.onceFirst (q.name s.pc) (some s.pc),
                   memo := upd s.memo (q.name s.pc) (some (q.value s.pc)),
                   col := upd s.col s.pc (.val (some (q.value s.pc))) } := by
  have hah := h.ahead s.pc (Nat.le_refl _)
  have hmo := h.omemo (q.name s.pc)
  unfold memoOk at hmo
  cases hf : s.onceFirst (q.name s.pc) with
  | some c0 => simp [hf, hm] at hmo
  | none =>
    simp only [hf] at hmo
    refine inv_inline h _ (q.value s.pc) _ _ _ (fun _ hne => upd_ne hne) hph hlt hrej
      (by rw [hs]; rfl) (fun e => by rw [hs] at e; cases e) ?_ ?_
    · intro m
      by_cases hmn : m = q.name s.pc
      · subst hmn
        simp [memoOk, hs, hmo.2]
      · exact memoOk_mono (h.omemo m) (upd_ne hmn) (upd_ne hmn) (upd_ne hmn)
          (Nat.le_succ _)
    · intro c hc hso
      by_cases hne : c = s.pc
      · subst hne
        exact ⟨s.pc, by simp, Nat.le_refl _, by simp, by simp [hah.2.1]⟩
      · obtain ⟨c0, h1, h2, h3, h4⟩ := h.ocall c (by omega) hso
        have hnn : q.name c ≠ q.name s.pc := by
          intro e; rw [e, hf] at h1; cases h1
        exact ⟨c0, by simp [upd_ne hnn, h1], h2, by simp [upd_ne hne, h3],
          by simp [upd_ne hne, h4]⟩

theorem inv_evalCall {q : Query A V} {s : St V} {added : Bool} (h : Inv q s)
    (hph : s.phase = .run added) (hlt : s.pc < q.total) : Inv q (evalCall q s added) := by
  by_cases hrej : q.rejected s.pc = true
  · have := h.run_false hph (.inr (.inr hrej)); subst this
    rw [evalCall_rejected hrej]
    exact inv_reject h hph
  · unfold evalCall
    simp only
    rw [if_neg hrej]
    have hrej : q.rejected s.pc = false := by simpa using hrej
    split
    · rename_i hs
      have := h.run_false hph (.inr (.inl (by rw [hs]; rfl))); subst this
      exact inv_plain h hph hlt hrej hs
    · rename_i hs
      have := h.run_false hph (.inr (.inl (by rw [hs]; rfl))); subst this
      split
      · rename_i v hm; exact inv_once_hit h hph hlt hrej hs hm
      · rename_i hm; exact inv_once_miss h hph hlt hrej hs hm
    · rename_i hs
      have hadd := h.run_false hph (.inr (.inl (by rw [hs]; rfl))); subst hadd
      have := inv_spawn h s.col s.posts (by rw [hph, hs]; rfl) hlt hrej (by rw [hs]; rfl)
        (by simp [hs]) (fun _ => ⟨rfl, rfl⟩)
      -- the SPIN arm leaves `phase` as it is; `inv_spawn` states its result with `.run false`
      rwa [← hph] at this
    · rename_i hs
      cases added
      · exact inv_add h hph hlt hrej (by rw [hs]; rfl)
      · exact inv_spawn h _ _ (by rw [hph, hs]; rfl) hlt hrej (by rw [hs]; rfl)
          (fun _ => ⟨rfl, rfl⟩) (fun c => absurd hs c)
    · rename_i hs
      cases added
      · exact inv_add h hph hlt hrej (by rw [hs]; rfl)
      · exact inv_spawn h s.col s.posts (by rw [hph, hs]; rfl) hlt hrej (by rw [hs]; rfl)
          (by simp [hs]) (fun _ => ⟨rfl, rfl⟩)

theorem inv_stepMain {q : Query A V} {s s' : St V} (h : Inv q s)
    (st : stepMain q s = some s') : Inv q s' := by
  unfold stepMain at st
  split at st
  · rename_i added hph
    split at st
    · rename_i hlt; cases st; exact inv_evalCall h hph hlt
    · rename_i hlt
      split at st
      · rename_i hwg
        cases st
        have := h.run_false hph (.inl hlt); subst this
        exact inv_wait h hph hlt hwg
      · cases st
  · rename_i c rest hph; cases st; exact inv_post h hph
  · rename_i hph; cases st; exact inv_return h hph
  · cases st
  · cases st

theorem inv_step {q : Query A V} {s s' : St V} {t : Nat} (h : Inv q s)
    (st : step q s t = some s') : Inv q s' := by
  cases t with
  | zero => exact inv_stepMain h st
  | succ c => exact inv_stepTask h st

theorem inv_reach {q : Query A V} {s : St V} (r : Reach q s) : Inv q s := by
  induction r with
  | init => exact inv_init q
  | step _ st ih => exact inv_step ih st

theorem inv_run (q : Query A V) (sched : List Nat) : Inv q (run q (init : St V) sched) :=
  inv_reach (run_reach q sched _ .init)

end Genql.Async

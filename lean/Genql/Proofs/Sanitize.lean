/-
  Lemmas of the sanitizer model: its decimal printer is core Lean's; the lexer loop `go` as step
  equations, one per way a state function moves on.  (Namespace `Genql.C16`, like the property
  theorems stated with `phs` and `digitsVal`.)
-/
import Genql.Model.Sanitize
namespace Genql.C16
open Genql Genql.San

/-! ## The number printer -/

def digitsVal (ds : List Char) : Nat := ds.foldl (fun a c => a * 10 + (c.toNat - 48)) 0

theorem digitChar_eq : ∀ d < 10, digitChar d = Nat.digitChar d := by decide

theorem isDigit_eq (c : Char) : isDigit c = c.isDigit := by
  simp [isDigit, Char.isDigit, Char.le_def, UInt32.le_iff_toNat_le]

theorem natDigitsAux_eq (fuel n : Nat) (acc : List Char) :
    natDigitsAux fuel n acc = Nat.toDigitsCore 10 fuel n acc := by
  induction fuel generalizing n acc with
  | zero => rfl
  | succ fuel ih =>
    simp only [natDigitsAux, Nat.toDigitsCore, ih, digitChar_eq _ (Nat.mod_lt n (by decide))]

/-- the sanitizer's decimal rendering is core Lean's, so core's lemmas about it apply -/
theorem natDigits_eq_toDigits (n : Nat) : natDigits n = Nat.toDigits 10 n := natDigitsAux_eq ..

theorem digitsVal_eq (ds : List Char) : digitsVal ds = Nat.ofDigitChars 10 ds 0 := by
  simp [digitsVal, Nat.ofDigitChars_eq_foldl, Nat.mul_comm]

theorem natDigits_spec (n : Nat) :
    natDigits n ≠ [] ∧ (∀ c ∈ natDigits n, isDigit c = true) ∧ digitsVal (natDigits n) = n := by
  rw [natDigits_eq_toDigits, digitsVal_eq]
  exact ⟨Nat.toDigits_ne_nil,
    fun c hc => isDigit_eq c ▸ Nat.isDigit_of_mem_toDigits (by decide) (by decide) hc,
    Nat.ofDigitChars_ten_toDigits⟩

/-! ## The lexer -/

def phs (ps : List Part) : List Int :=
  ps.filterMap (fun p => match p with | .ph n => some n | .raw _ => none)

@[simp] theorem phs_nil : phs [] = [] := rfl
@[simp] theorem phs_raw (s : List Char) (ps : List Part) : phs (.raw s :: ps) = phs ps := rfl
@[simp] theorem phs_ph (n : Int) (ps : List Part) : phs (.ph n :: ps) = n :: phs ps := rfl
@[simp] theorem phs_append (p q : List Part) : phs (p ++ q) = phs p ++ phs q := by
  simp [phs, List.filterMap_append]

theorem mem_phs {n : Int} {ps : List Part} : n ∈ phs ps ↔ Part.ph n ∈ ps := by
  induction ps with
  | nil => simp
  | cons p ps ih => cases p <;> simp [ih]

/-- One loop iteration of a state function that does not return on the rune: every state but
    `placeholderState` (there `leavesPh` is `false` by `rfl`), and `placeholderState` on a digit. -/
theorem go_cons {st : St} {c : Char} (h : leavesPh st c = false) (acc cs : List Char) :
    go st acc (c :: cs) =
      match step st c cs.head? with
      | .next st' => go st' (c :: acc) cs
      | .next2 st' =>
        (match cs with
         | d :: cs' => go st' (d :: c :: acc) cs'
         | [] => atEnd st' (c :: acc))
      | .startPh => .raw acc.reverse :: go (.ph 0) [] cs
      | .digit num => go (.ph num) [] cs := by
  rw [go.eq_def]
  simp only [h, Bool.false_eq_true, ↓reduceIte]
  -- what is left of `pre` is `[]` in `placeholderState` and `[]` elsewhere
  split <;> rfl

theorem go_next {st st' : St} {c : Char} {cs : List Char} (hl : leavesPh st c = false)
    (h : step st c cs.head? = .next st') (acc : List Char) :
    go st acc (c :: cs) = go st' (c :: acc) cs := by
  rw [go_cons hl, h]

theorem go_next2 {st st' : St} {c d : Char} {cs : List Char} (hl : leavesPh st c = false)
    (h : step st c (some d) = .next2 st') (acc : List Char) :
    go st acc (c :: d :: cs) = go st' (d :: c :: acc) cs := by
  rw [go_cons hl]; simp only [List.head?_cons, h]

theorem go_raw_dollar {d : Char} (hd : isDigit d = true) (acc cs : List Char) :
    go .raw acc ('$' :: d :: cs) = .raw acc.reverse :: go (.ph 0) [] (d :: cs) := by
  rw [go_cons rfl]; simp [step, rawStep, hd]

theorem go_ph_digit {k : Nat} {acc : List Char} {c : Char} {cs : List Char} (h : isDigit c = true) :
    go (.ph k) acc (c :: cs) = go (.ph (pushDigit k c)) [] cs := by
  rw [go_cons (by simp [leavesPh, h])]; simp only [step, h, ↓reduceIte]

theorem go_ph_leave {k : Nat} {acc : List Char} {c : Char} {cs : List Char} (h : isDigit c = false) :
    go (.ph k) acc (c :: cs) = .ph (toInt64 k) :: go .raw [] (c :: cs) := by
  rw [go.eq_def, go.eq_def .raw]
  simp only [leavesPh, step, h, Bool.not_false, ↓reduceIte, List.singleton_append,
    Bool.false_eq_true, List.nil_append]

/-- A run `body` of runes on each of which the state function `st` stays where it is: they all go
    to the pending text.  The look-ahead of a rune is the head of what follows it in
    `body ++ rest`, hence the suffixes. -/
theorem go_run {st : St} (hst : ∀ c, leavesPh st c = false) {rest : List Char} (body acc : List Char)
    (h : ∀ c cs, c :: cs <:+ body → step st c (cs ++ rest).head? = .next st) :
    go st acc (body ++ rest) = go st (body.reverse ++ acc) rest := by
  induction body generalizing acc with
  | nil => rfl
  | cons b bs ih =>
    rw [List.cons_append, go_next (hst b) (h b bs (List.suffix_refl _)),
      ih _ fun c cs hs => h c cs (hs.trans (List.suffix_cons b bs))]
    simp

theorem phs_atEnd (st : St) (acc acc' : List Char) : phs (atEnd st acc) = phs (atEnd st acc') := by
  -- outside `placeholderState` the pending text becomes a raw part or nothing
  have raw (a : List Char) : phs (if a.isEmpty then [] else [.raw a.reverse]) = [] := by
    split <;> rfl
  cases st
  case ph => rfl
  all_goals exact (raw acc).trans (raw acc').symm

/-- The pending text only ever ends up inside raw parts, so it has no influence on which
    placeholders come out. -/
theorem phs_go_acc (st : St) (acc xs : List Char) :
    ∀ acc', phs (go st acc xs) = phs (go st acc' xs) := by
  induction st, acc, xs using go.induct with
  | case1 st acc => exact phs_atEnd st acc
  | case2 st acc c cs lv a ih1 ih2 _ _ =>
    intro acc'
    rw [go.eq_def, go.eq_def st acc']
    simp only [phs_append]
    congr 1
    generalize (if leavesPh _ c = true then [] else acc') = a'
    cases step st c cs.head? with
    | next st' => exact ih1 st' _
    | next2 st' =>
      cases cs with
      | nil => exact phs_atEnd st' _ _
      | cons d cs' => exact ih2 st' _
    | startPh => simp
    | digit num => rfl

/-- inside `'…'` / `"…"` (`st` the state function, `q` its delimiter): everything up to the
    closing delimiter stays raw text -/
theorem go_quote_body {st : St} {q : Char} (hst : ∀ c, leavesPh st c = false)
    (hstep : ∀ c nx, step st c nx =
      if c = q then (if nx = some q then .next2 st else .next .raw) else .next st)
    {post : List Char} (hpost : post.head? ≠ some q) {body : List Char} (h : q ∉ body)
    (acc : List Char) :
    go st acc (body ++ q :: post) = go .raw (q :: (body.reverse ++ acc)) post := by
  rw [go_run hst body acc, go_next (st' := .raw) (hst q) (by rw [hstep, if_pos rfl, if_neg hpost])]
  intro c cs hs
  have : c ≠ q := fun e => h (e ▸ hs.subset (List.mem_cons_self ..))
  rw [hstep, if_neg this]

theorem go_olc_body {post : List Char} {nl : Char} (hnl : nl = '\n' ∨ nl = '\r') {body : List Char}
    (h1 : '\\' ∉ body) (h2 : '\n' ∉ body) (h3 : '\r' ∉ body) (acc : List Char) :
    go .olc acc (body ++ nl :: post) = go .raw (nl :: (body.reverse ++ acc)) post := by
  have : nl ≠ '\\' := by rcases hnl with rfl | rfl <;> decide
  rw [go_run (fun _ => rfl) body acc,
    go_next (st' := .raw) rfl (by simp [step, olcStep, this, hnl])]
  intro c cs hs
  have hc : c ∈ body := hs.subset (List.mem_cons_self ..)
  have c1 : c ≠ '\\' := fun e => h1 (e ▸ hc)
  have c2 : c ≠ '\n' := fun e => h2 (e ▸ hc)
  have c3 : c ≠ '\r' := fun e => h3 (e ▸ hc)
  simp [step, olcStep, c1, c2, c3]

/-- inside `/* … */` (body without `*`, not ending in `/`, so that neither `/*` nor an early `*/`
    occurs) -/
theorem go_mlc_body {post body : List Char} (h1 : '*' ∉ body)
    (h2 : body.getLast? ≠ some '/') (acc : List Char) :
    go (.mlc 0) acc (body ++ '*' :: '/' :: post) =
      go .raw ('/' :: '*' :: (body.reverse ++ acc)) post := by
  rw [go_run (fun _ => rfl) body acc, go_next2 (st' := .raw) rfl (by simp [step, mlcStep])]
  intro c cs hs
  have c1 : c ≠ '*' := fun e => h1 (e ▸ hs.subset (List.mem_cons_self ..))
  cases cs with
  | nil =>
    obtain ⟨p, rfl⟩ := hs
    have : c ≠ '/' := fun e => h2 (by simp [e])
    simp [step, mlcStep, c1, this]
  | cons d ds =>
    have : d ≠ '*' := fun e => h1 (e ▸ hs.subset (by simp))
    simp [step, mlcStep, c1, this]

end Genql.C16

/-
  Genql.Proofs.KeyText — the join / catalogue key text `"<len>:<text>-"` per column (`ToCatalog`,
  model `rowKey`) is injective: two rows get the same key text iff their column texts are equal,
  column by column.  (That the SHA-256 of equal texts is equal is trivial; that different texts get
  different hashes is the trusted collision freedom of SHA-256.)
-/
import Genql.Model.Join
import Genql.Proofs.Loops
import Std.Data.String.ToNat

namespace Genql.C04

/-- the key text of `ToCatalog`: each column's text prefixed by its length -/
def encKey (cols : List String) : String :=
  cols.foldl (fun acc t => acc ++ toString t.utf8ByteSize ++ ":" ++ t ++ "-") ""

/-- non-vacuity / the old collision: `("a-","b")` and `("a","-b")` now get different key texts -/
example : encKey ["a-", "b"] ≠ encKey ["a", "-b"] := by decide +kernel

end Genql.C04

namespace Genql.KeyText

def tok (t : String) : String := toString t.utf8ByteSize ++ ":" ++ t ++ "-"

def enc : List String → String
  | [] => ""
  | t :: ts => tok t ++ enc ts

/-- `C04.encKey` (a left fold, as in the Go loop) is `enc` -/
theorem foldl_eq (ts : List String) (acc : String) :
    ts.foldl (fun acc t => acc ++ toString t.utf8ByteSize ++ ":" ++ t ++ "-") acc = acc ++ enc ts := by
  induction ts generalizing acc with
  | nil => exact String.append_empty.symm
  | cons t ts ih =>
    rw [List.foldl_cons, ih]
    simp only [enc, tok, String.append_assoc]

theorem encKey_eq_enc (ts : List String) : Genql.C04.encKey ts = enc ts :=
  (foldl_eq ts "").trans String.empty_append

theorem split_colon {ds ds' x x' : List Char} (h : ds ++ ':' :: x = ds' ++ ':' :: x')
    (hd : ':' ∉ ds) (hd' : ':' ∉ ds') : ds = ds' ∧ x = x' := by
  -- one of `ds`, `ds'` is the other followed by some `a`; a nonempty `a` would begin with the colon
  rcases List.append_eq_append_iff.mp h with ⟨a, rfl, ha⟩ | ⟨a, rfl, ha⟩
  · cases a with
    | nil => exact ⟨(List.append_nil _).symm, (List.cons.inj ha).2⟩
    | cons c a => cases (List.cons.inj ha).1; exact absurd (List.mem_append_right _ List.mem_cons_self) hd'
  · cases a with
    | nil => exact ⟨List.append_nil _, (List.cons.inj ha).2.symm⟩
    | cons c a => cases (List.cons.inj ha).1; exact absurd (List.mem_append_right _ List.mem_cons_self) hd

theorem colon_not_in_digits (n : Nat) : ':' ∉ Nat.toDigits 10 n := by
  intro h
  have := Nat.isDigit_of_mem_toDigits (b := 10) (by omega) (by omega) h
  simp [Char.isDigit] at this

theorem toDigits_inj {m n : Nat} (h : Nat.toDigits 10 m = Nat.toDigits 10 n) : m = n := by
  have hm := Nat.ofDigitChars_ten_toDigits (n := m)
  have hn := Nat.ofDigitChars_ten_toDigits (n := n)
  rw [h] at hm
  rw [← hm, hn]

theorem nil_of_same_size {t t' : String} {a : List Char} (h : t'.toList = t.toList ++ a)
    (hs : t.utf8ByteSize = t'.utf8ByteSize) : a = [] := by
  have ht' : t' = t ++ String.ofList a :=
    String.toList_injective (by rw [String.toList_append, String.toList_ofList, h])
  have := congrArg String.utf8ByteSize ht'
  rw [String.utf8ByteSize_append] at this
  exact String.ofList_eq_empty_iff.mp (String.utf8ByteSize_eq_zero_iff.mp (by omega))

theorem same_size_prefix {t t' : String} {x x' : List Char}
    (h : t.toList ++ x = t'.toList ++ x') (hs : t.utf8ByteSize = t'.utf8ByteSize) : t = t' ∧ x = x' := by
  rcases List.append_eq_append_iff.mp h with ⟨a, ha, hx⟩ | ⟨a, ha, hx⟩
  · cases nil_of_same_size ha hs
    exact ⟨String.toList_injective (by rw [ha, List.append_nil]), hx⟩
  · cases nil_of_same_size ha hs.symm
    exact ⟨String.toList_injective (by rw [ha, List.append_nil]), hx.symm⟩

theorem tok_toList (t : String) (r : String) :
    (tok t ++ r).toList = Nat.toDigits 10 t.utf8ByteSize ++ ':' :: (t.toList ++ '-' :: r.toList) := by
  unfold tok
  simp only [String.toList_append, List.append_assoc]
  have h1 : (toString t.utf8ByteSize).toList = Nat.toDigits 10 t.utf8ByteSize := Nat.toList_repr
  have h2 : (":" : String).toList = [':'] := rfl
  have h3 : ("-" : String).toList = ['-'] := rfl
  rw [h1, h2, h3]
  simp

theorem tok_append_inj {t t' r r' : String} (h : tok t ++ r = tok t' ++ r') : t = t' ∧ r = r' := by
  have hl := congrArg String.toList h
  rw [tok_toList, tok_toList] at hl
  obtain ⟨hd, hx⟩ := split_colon hl (colon_not_in_digits _) (colon_not_in_digits _)
  have hsz := toDigits_inj hd
  obtain ⟨ht, hr⟩ := same_size_prefix hx hsz
  exact ⟨ht, String.toList_injective (List.cons.inj hr).2⟩

theorem enc_nil_of_eq {ts : List String} (h : enc ts = "") : ts = [] := by
  cases ts with
  | nil => rfl
  | cons t ts =>
    exfalso
    have := congrArg String.toList h
    rw [enc, tok_toList] at this
    simp at this

theorem enc_injective : ∀ (ts us : List String), enc ts = enc us → ts = us := by
  intro ts
  induction ts with
  | nil => exact fun us h => (enc_nil_of_eq h.symm).symm
  | cons t ts ih =>
    intro us h
    cases us with
    | nil => exact enc_nil_of_eq h
    | cons u us =>
      rw [enc, enc] at h
      obtain ⟨h1, h2⟩ := tok_append_inj h
      rw [h1, ih us h2]

theorem encKey_injective (ts us : List String) (h : Genql.C04.encKey ts = Genql.C04.encKey us) : ts = us := by
  rw [encKey_eq_enc, encKey_eq_enc] at h
  exact enc_injective ts us h

example : enc ["a-", "b"] ≠ enc ["a", "-b"] := by decide +kernel

variable {N : Type} [Num N]

/-- the `%v` texts of the key columns of a row -/
def colTexts (cols : List (List String)) (row : Val N) : R (List String) :=
  mapE (fun col => do let v ← readPath col row; fmtR v) cols

theorem rowKey_key (row : Val N) : ∀ (cols : List (List String)) (acc : String) (m : Row N) (k : String) (km : Row N),
    (cols.foldlM (init := (acc, m)) fun (a : String × Row N) col => do
        let v ← readPath col row
        let t ← fmtR v
        pure (a.1 ++ toString t.utf8ByteSize ++ ":" ++ t ++ "-", setKey (".".intercalate col) v a.2)) = .ok (k, km) →
    ∃ ts, colTexts cols row = .ok ts ∧ k = acc ++ enc ts := by
  intro cols
  induction cols with
  | nil =>
    intro acc m k km h
    cases h
    exact ⟨[], rfl, String.append_empty.symm⟩
  | cons c cs ih =>
    intro acc m k km h
    rw [List.foldlM_cons] at h
    obtain ⟨s, hs, h⟩ := bind_eq_ok h
    obtain ⟨v, hr, hs⟩ := bind_eq_ok hs
    obtain ⟨t, hf, hs⟩ := bind_eq_ok hs
    cases hs
    obtain ⟨ts, hts, hk⟩ := ih _ _ k km h
    refine ⟨t :: ts, ?_, ?_⟩
    · rw [colTexts, mapE, hr, C19.ok_bind, hf, C19.ok_bind]
      rw [colTexts] at hts
      rw [hts]; rfl
    · rw [hk]; simp only [enc, tok, String.append_assoc]

theorem rowKey_enc (cols : List (List String)) (row : Val N) (k : String) (km : Row N)
    (h : rowKey cols row = .ok (k, km)) : ∃ ts, colTexts cols row = .ok ts ∧ k = enc ts := by
  obtain ⟨ts, h1, h2⟩ := rowKey_key row cols "" [] k km h
  exact ⟨ts, h1, h2.trans String.empty_append⟩

/-- **two rows fall into the same catalogue group iff their key column texts are equal** -/
theorem rowKey_eq_iff (cols : List (List String)) (r1 r2 : Val N) (k1 k2 : String) (m1 m2 : Row N)
    (h1 : rowKey cols r1 = .ok (k1, m1)) (h2 : rowKey cols r2 = .ok (k2, m2)) :
    k1 = k2 ↔ colTexts cols r1 = colTexts cols r2 := by
  obtain ⟨t1, ht1, hk1⟩ := rowKey_enc cols r1 k1 m1 h1
  obtain ⟨t2, ht2, hk2⟩ := rowKey_enc cols r2 k2 m2 h2
  rw [ht1, ht2, hk1, hk2]
  constructor
  · intro h; rw [enc_injective _ _ h]
  · intro h; cases h; rfl

end Genql.KeyText

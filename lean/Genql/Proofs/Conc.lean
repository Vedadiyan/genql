/-
  Genql.Proofs.Conc — the two machines of `Model/Conc` by themselves, before any invariant: what `WLfrom` asks at each
  instruction, `run` against `Reach`, what a step does to the program of the thread that moves and when a thread or a
  call is enabled, `Cache.get` after `Cache.put`.  In the namespace of `Properties/C13`, which builds the invariants on them.
-/
import Genql.Model.Conc

namespace Genql.C13
open Genql.Conc

theorem upd_same {β : Type} (f : Nat → β) (t : Nat) (b : β) : upd f t b t = b := if_pos rfl
theorem upd_ne {β : Type} {f : Nat → β} {t u : Nat} {b : β} (h : u ≠ t) : upd f t b u = f u := if_neg h
theorem upd_self {β : Type} (f : Nat → β) (t : Nat) : upd f t (f t) = f := by
  funext u; unfold upd; split
  · next e => rw [e]
  · rfl

/-! ### Threads and locks -/

section Lock
variable {guard : String → Option String} {held : List String} {m x : String} {p : List Instr}

theorem guardHeld_some (hg : guard x = some m) : guardHeld guard held x = true ↔ m ∈ held := by
  simp only [guardHeld, hg, List.contains_iff_mem]

theorem wl_nil : WLfrom guard held [] = true ↔ held = [] := List.isEmpty_iff
theorem wl_lock : WLfrom guard held (.lock m :: p) = true ↔ m ∉ held ∧ WLfrom guard (m :: held) p = true := by
  simp [WLfrom]
theorem wl_unlock :
    WLfrom guard held (.unlock m :: p) = true ↔ m ∈ held ∧ WLfrom guard (held.filter (· != m)) p = true := by
  simp [WLfrom]
theorem wl_read :
    WLfrom guard held (.read x :: p) = true ↔ guardHeld guard held x = true ∧ WLfrom guard held p = true :=
  Bool.and_eq_true_iff
theorem wl_write :
    WLfrom guard held (.write x :: p) = true ↔ guardHeld guard held x = true ∧ WLfrom guard held p = true :=
  Bool.and_eq_true_iff
end Lock

/-- Every `run` of a schedule is a reachable state (and conversely every reachable state is the
    `run` of some schedule): the two presentations of "all interleavings" agree. -/
theorem run_reach (init : St) : ∀ (sched : List Nat) (s : St), Reach init s → Reach init (run s sched)
  | [], _, r => r
  | t :: ts, s, r => by
    unfold run
    split
    · rename_i s' hs; exact run_reach init ts s' (.step r hs)
    · exact run_reach init ts s r

theorem run_append (s : St) (a b : List Nat) : run s (a ++ b) = run (run s a) b := by
  induction a generalizing s with
  | nil => rfl
  | cons t ts ih =>
    simp only [List.cons_append, run]
    split <;> exact ih _

theorem reach_run {init s : St} (r : Reach init s) : ∃ sched, run init sched = s := by
  induction r with
  | refl => exact ⟨[], rfl⟩
  | @step s1 s2 t _ st ih =>
    obtain ⟨sched, rfl⟩ := ih
    exact ⟨sched ++ [t], by rw [run_append]; simp only [run, st]⟩

theorem step_prog {s s' : St} {t : Nat} (st : step s t = some s') :
    ∃ i p, s.prog t = i :: p ∧ s'.prog = upd s.prog t p := by
  revert st
  fun_cases step s t <;> intro st <;> cases st
  all_goals exact ⟨_, _, ‹s.prog t = _›, rfl⟩

theorem reach_suffix {init s : St} (r : Reach init s) (u : Nat) : s.prog u <:+ init.prog u := by
  induction r with
  | refl => exact List.suffix_refl _
  | @step s1 s2 t _ st ih =>
    obtain ⟨i, p, hp, e⟩ := step_prog st
    refine List.IsSuffix.trans ?_ ih
    rw [e]
    by_cases hu : u = t
    · rw [hu, upd_same, hp]; exact List.suffix_cons i p
    · rw [upd_ne hu]; exact List.suffix_refl _

theorem step_enabled {s : St} {t : Nat} {i : Instr} {p : List Instr}
    (hp : s.prog t = i :: p) (hfree : ∀ m, i = .lock m → s.holder m = none) : ∃ s', step s t = some s' := by
  fun_cases step s t
  -- the two `none`s of `step`: finished, and `lock` of a taken mutex
  case case1 h => rw [h] at hp; cases hp
  case case3 m _ h _ hm => rw [h] at hp; cases hp; rw [hfree m rfl] at hm; cases hm
  all_goals exact ⟨_, rfl⟩

/-! ### The `ExecReader` protocol and its cache -/

section Cache
variable {D P R : Type}

theorem get_put (k k' : String) (v : P) (c : Cache P) :
    (Cache.put k v c).get k' = if k' = k then some v else c.get k' := by
  fun_induction Cache.put k v c with
  | case1 => simp only [Cache.get, eq_comm]
  | case2 v1 rest => by_cases e : k' = k <;> simp [Cache.get, e, eq_comm (a := k)]
  | case3 k1 v1 rest h ih =>
    simp only [Cache.get, ih]
    split
    · next e => rw [if_neg (e ▸ h)]
    · rfl

theorem get_put_same (k : String) (v : P) (c : Cache P) : (Cache.put k v c).get k = some v := by
  rw [get_put, if_pos rfl]

theorem cstep_enabled {parse : String → Option P} {eval : P → D → R} {s : CSt D P R} {t : Nat}
    (hstart : (s.call t).pc = .start → s.mutHolder = none)
    (hhit : (s.call t).pc = .hit → ∃ v, s.cache.get (s.call t).key = some v)
    (hdone : ∀ r, (s.call t).pc ≠ .done r) : ∃ s', cstep parse eval s t = some s' := by
  fun_cases cstep parse eval s t
  -- the three `none`s of `cstep`: `start` while `mut` is taken, `hit` on a key that is not cached, `done`
  case case2 hpc _ hm => rw [hstart hpc] at hm; cases hm
  case case8 hpc hget => obtain ⟨v, hv⟩ := hhit hpc; rw [hv] at hget; cases hget
  case case12 r hpc => exact absurd hpc (hdone r)
  all_goals exact ⟨_, rfl⟩

end Cache
end Genql.C13

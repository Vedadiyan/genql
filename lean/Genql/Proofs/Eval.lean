/-
  Genql.Proofs.Eval — the equations of `evalExpr`, `evalArgs`, `evalWhens` and `evalSel`, one per syntactic form.
  An operand read is written `evalExpr … e >>= valueOf cur` (Go: `ValueOf(Expr(e))`), so that a proof rewrites with
  the value of an operand, or pushes a failure outwards with `isError_bind` / `isError_bind_right`, and does not unfold
  the mutual recursion (`simp only [evalExpr]` is slow, and as slow again at every call).  Each statement is the
  definition up to the association of `>>=`, hence `rfl` after `bind_assoc`.  On a literal `evalExpr` reduces by `rfl`.
  The forms that run a query (`.subq`, `.exists`) are stated with `execQuery` / `prepare`; what those do is `Proofs/Exec`.
-/
import Genql.Model.Eval
import Genql.Proofs.Loops
import Genql.Proofs.Builtins

namespace Genql
variable {N : Type} [Num N] (env : Env N) (ctx : Ctx N) (cur : Row N)

theorem evalExpr_col (p : List String) :
    evalExpr env ctx cur (.col p) = .ok (.col (if ctx.hard then [".".intercalate p] else p)) := rfl

theorem evalExpr_col_value (hh : ctx.hard = false) (k : String) :
    evalExpr env ctx cur (.col [k]) >>= valueOf cur = .ok (Val.get cur k) := by
  rw [evalExpr_col, hh]; exact readPath_single k cur

theorem evalExpr_selc (t : String) :
    evalExpr env ctx cur (.selc t) =
      if ctx.hard then .error .oom else (do let v ← Sel.execReader (.obj cur) t; pure (.v v)) := rfl

theorem evalExpr_and (a b : Expr N) : evalExpr env ctx cur (.and a b) = (do
    let lb ← evalExpr env ctx cur a >>= valueOf cur >>= asBool
    let rb ← evalExpr env ctx cur b >>= valueOf cur >>= asBool
    pure (.v (.bool (lb && rb)))) := by
  simp only [bind_assoc]; rfl

theorem evalExpr_or (a b : Expr N) : evalExpr env ctx cur (.or a b) = (do
    let lb ← evalExpr env ctx cur a >>= valueOf cur >>= asBool
    let rb ← evalExpr env ctx cur b >>= valueOf cur >>= asBool
    pure (.v (.bool (lb || rb)))) := by
  simp only [bind_assoc]; rfl

theorem evalExpr_not (a : Expr N) : evalExpr env ctx cur (.not a) = (do
    let lb ← evalExpr env ctx cur a >>= valueOf cur >>= asBool
    pure (.v (.bool (!lb)))) := by
  simp only [bind_assoc]; rfl

/-- both operands are read on the row with the navigation marker; the operator switch also sees the raw right operand -/
theorem evalExpr_cmp (op : CmpOp) (a b : Expr N) : evalExpr env ctx cur (.cmp op a b) = (do
    let lv ← evalExpr env ctx (withMarker cur ctx.data) a >>= valueOf (withMarker cur ctx.data)
    let r ← evalExpr env ctx (withMarker cur ctx.data) b
    let rv ← valueOf (withMarker cur ctx.data) r
    let res ← cmpDispatch op lv r rv
    pure (.v (.bool res))) := by
  simp only [bind_assoc]; rfl

/-- `lo` and `hi` are both evaluated before either is resolved by `ValueOf` -/
theorem evalExpr_between (isB : Bool) (x lo hi : Expr N) : evalExpr env ctx cur (.between isB x lo hi) = (do
    let pv ← evalExpr env ctx cur x >>= valueOf cur
    let f ← evalExpr env ctx cur lo
    let t ← evalExpr env ctx cur hi
    let fv ← valueOf cur f
    let tv ← valueOf cur t
    let c1 ← compareVal pv fv
    let c2 ← compareVal pv tv
    let isBetween := decide (c1 ≥ 0) && decide (c2 ≤ 0)
    pure (.v (.bool (if isB then isBetween else !isBetween)))) := by
  simp only [bind_assoc]; rfl

theorem evalExpr_is (op : IsOp) (a : Expr N) : evalExpr env ctx cur (.is op a) = (do
    let b ← evalExpr env ctx cur a >>= valueOf cur >>= isDispatch op
    pure (.v (.bool b))) := by
  simp only [bind_assoc]; rfl

theorem evalExpr_bin (op : BinOp) (a b : Expr N) : evalExpr env ctx cur (.bin op a b) = (do
    let lv ← evalExpr env ctx cur a >>= valueOf cur
    match lv with
    | .null => pure (.fptr none)
    | .num x => do
      let rv ← evalExpr env ctx cur b >>= valueOf cur
      match rv with
      | .null => pure (.fptr none)
      | .num y => do
        let z ← binArith op x y
        pure (.fptr (some z))
      | _ => .error .error
    | _ => .error .error) := by
  simp only [bind_assoc]; rfl

theorem evalExpr_un (op : UnOp) (a : Expr N) : evalExpr env ctx cur (.un op a) = (do
    let xv ← evalExpr env ctx cur a >>= valueOf cur
    match op, xv with
    | _, .null => .error .error
    | .tilda, .num n =>
      match Num.toInt? n with
      | some k => pure (.fptr (some (Num.ofInt (-k - 1))))
      | none => .error .oom
    | .neg, .num n => pure (.fptr (some (Num.neg n)))
    | .bang, .bool b => pure (.v (.bool (!b)))
    | _, _ => .error .error) := by
  simp only [bind_assoc]; rfl

theorem evalArgs_eq_mapE (es : List (Expr N)) :
    evalArgs env ctx cur es = mapE (fun e => evalExpr env ctx cur e >>= valueOf cur) es := by
  induction es with
  | nil => rfl
  | cons e es ih => rw [mapE, ← ih, bind_assoc]; rfl

theorem evalExpr_tuple (xs : List (Expr N)) : evalExpr env ctx cur (.tuple xs) = (do
    let vs ← evalArgs env ctx cur xs
    pure (.v (.arr vs))) := rfl

/-- a synchronous call (plain or `scoped`): the arguments are read as ordinary paths even inside a join's ON; the fault
    injection function and `CONSTANT` are resolved before the built-ins -/
theorem evalExpr_func {q : Qual} (hq : q = .none ∨ q = .scoped) (name : String) (args : List (Expr N)) :
    evalExpr env ctx cur (.func q name args) = (do
      let vs ← evalArgs env { ctx with hard := false } cur args
      if name = "vf_fail" then
        match vs with
        | [x] =>
          match env.failOn with
          | some w => if valEq x w then .error .error else .ok (.v x)
          | none => .ok (.v x)
        | _ => .error .error
      else if name = "constant" then
        match vs, env.constants with
        | [k], some cs => do
          let key ← fmtR k
          match lookup? key cs with
          | some v => pure (.v v)
          | none => .error .error
        | _, _ => .error .error
      else callBuiltin env.dfx.concatNilText name (starOf cur) ctx.fromLen vs) := by
  rcases hq with rfl | rfl <;> rfl

theorem evalWhens_cons (c v : Expr N) (rest : List (When N)) : evalWhens env ctx cur (.mk c v :: rest) = (do
    let b ← evalExpr env ctx cur c >>= rawBool
    if b then do
      let r ← evalExpr env ctx cur v
      pure (some r)
    else evalWhens env ctx cur rest) := by
  simp only [bind_assoc]; rfl

theorem evalExpr_case (whens : List (When N)) (els : Expr N) : evalExpr env ctx cur (.case whens els) = (do
    match ← evalWhens env ctx cur whens with
    | some v => pure v
    | none => evalExpr env ctx cur els) := rfl

theorem evalSel_item (e : Expr N) (key alias : String) (rest : List (SelItem N)) (acc : Row N) :
    evalSel env ctx cur (.item e key alias :: rest) acc = (do
      let x ← evalExpr env ctx cur e
      match x with
      | .omit => evalSel env ctx cur rest acc
      | .fuse fs =>
        evalSel env ctx cur rest
          (fs.foldl (fun a kv => setKey (if alias.isEmpty then kv.1 else alias ++ "." ++ kv.1) kv.2 a) acc)
      | x => do
        let v ← valueOf cur x
        evalSel env ctx cur rest (setKey key v acc)) := rfl

/-- the accumulator is the only thing one item hands to the next -/
theorem evalSel_append (pre post : List (SelItem N)) (acc : Row N) :
    evalSel env ctx cur (pre ++ post) acc = evalSel env ctx cur pre acc >>= evalSel env ctx cur post := by
  induction pre generalizing acc with
  | nil => rfl
  | cons it pre ih =>
    cases it with
    | star => exact ih _
    | item e key alias =>
      rw [List.cons_append, evalSel_item, evalSel_item, bind_assoc]
      refine bind_congr fun x => ?_
      cases x with
      | «omit» | fuse => exact ih _
      | _ => exact (bind_congr fun _ => ih _).trans (bind_assoc ..).symm

/-- an aggregate call reads its arguments against `*`: the group's members, or the rows that passed WHERE when
    there is no GROUP BY -/
theorem evalExpr_aggr {name : String} (args : List (Expr N)) (h : name ∈ aggrNames) :
    evalExpr env ctx cur (.aggr name args) =
      evalAggrArgs env { ctx with hard := false } (if ctx.grouped then cur else [("*", .arr ctx.matched)]) args >>=
        callBuiltin env.dfx.concatNilText name (starOf (if ctx.grouped then cur else [("*", .arr ctx.matched)]))
          ctx.fromLen := by
  show (if name ∉ aggrNames then _ else _) = _
  rw [if_neg (not_not_intro h)]

theorem evalAggrArgs_nil : evalAggrArgs env ctx cur [] = .ok [] := rfl

theorem evalExpr_count_star :
    evalExpr env ctx cur (.aggr "count" []) = .ok (.v (.num (Num.ofInt
      (match starOf (if ctx.grouped then cur else [("*", .arr ctx.matched)]) with
       | some xs => xs.length
       | none => ctx.fromLen)))) := by
  rw [evalExpr_aggr env ctx cur [] (by simp [aggrNames]), evalAggrArgs_nil, C19.ok_bind,
    callBuiltin_unguarded arityOf_count, callBody_count_star]
  rfl

theorem evalExpr_subq (q : Query N) :
    evalExpr env ctx cur (.subq q) = (execQuery env (withMarker cur ctx.data) {} q).map IVal.v := by
  show (prepare env (withMarker cur ctx.data) {} q >>= fun p => p.run p.frm >>= fun v => pure (IVal.v v)) = _
  rw [execQuery]
  cases prepare env (withMarker cur ctx.data) {} q with
  | error e => rfl
  | ok p =>
    show (p.run p.frm >>= _) = Except.map _ (p.run p.frm)
    cases p.run p.frm <;> rfl

/-- EXISTS runs the prepared query not on its own source but on those rows with the current row (and its marker)
    merged over each -/
theorem evalExpr_exists (q : Query N) {run : List (Val N) → R (Val N)} {elems : List (Row N)}
    (hp : prepare env (withMarker cur ctx.data) {} q = .ok { frm := elems.map Val.obj, run := run }) :
    evalExpr env ctx cur (.exists q) =
      match run ((elems.map fun e => copyInto (copyInto [] e) (withMarker cur ctx.data)).map Val.obj) with
      | .ok (.arr rows) => .ok (.v (.bool (!rows.isEmpty)))
      | .ok _ => .error .error
      | .error .oom => .error .oom
      | .error _ => .error .error := by
  show (prepare env (withMarker cur ctx.data) {} q >>= _) = _
  rw [hp, C19.ok_bind, mapE_comp,
    mapE_eq_map_of_ok (g := fun e => Val.obj (copyInto (copyInto [] e) (withMarker cur ctx.data))) fun _ _ => rfl,
    List.map_map]
  rfl

end Genql

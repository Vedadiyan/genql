/-
  Genql.Proofs.Exec — `prepare` / `execQuery` stage by stage.

  `prepare` builds the rest of `exec()` as local closures.  They get names here (`whereStage`, `groupStage`,
  `selStage`, `tailStage`, `postStage`, `runSelect`; `sideRows`, `runUnion`), `prepare` is shown once to be built
  from them, and each stage gets the equations the query-level theorems use, so that none of them unfolds
  `prepare` again.  The equations are about `prepare` and `runSelect`, not only about `execQuery`: EXISTS runs a
  prepared query on rows other than its own source.
-/
import Genql.Proofs.Eval
import Genql.Proofs.Loops
namespace Genql
open C19 (IsError)
variable {N : Type} [Num N]
variable (env : Env N) (data : Row N) (sc : Scope) (grouped dual distinct : Bool) (sel : List (SelItem N)) (wh : Expr N)
  (groupBy : List (String × List String)) (having : Expr N) (orderBy : List (List String × Bool))
  (limit offset : Option Nat)

/-- the context of every stage of one level: `matched` is the whole source while WHERE runs (`kept := src`) and the
    rows that passed afterwards.  `Pipeline.selCtx d s k`, `Pipeline.whereCtx d s` and `GroupModel.groupCtx d s k` are
    `postCtx d false s k`, `postCtx d false s s` and `postCtx d true s k`, by `rfl`. -/
def postCtx (src kept : List (Val N)) : Ctx N :=
  { data := data, hard := false, grouped := grouped, matched := kept, fromLen := src.length }

/-- the WHERE closure handed to `execLevel`: `ExecWhere` on one row of the level whose source is `src` -/
def whereStage (src : List (Val N)) (cur : Row N) : R Bool := do
  rawBool (← evalExpr env (postCtx data grouped src src) cur wh)

/-- the key row `ExecGroupBy` reads for one row of the level: one entry per GROUP BY item -/
def groupKeyOf (item : Val N) : R (Row N) :=
  groupBy.foldlM (init := ([] : Row N)) fun acc (kp : String × List String) => do
    let v ← readPath kp.2 item
    pure (setKey kp.1 v acc)

/-- the model's key comparison (`group.key[key] != value` for every key of the row's own key map) -/
def GroupModel.keyEq (k1 k2 : Row N) : R Bool :=
  k2.foldlM (init := true) fun acc kv => if !acc then pure false else goEq (Val.get k1 kv.1) kv.2

/-- the row a group is presented as to HAVING and to the select list: its key columns plus `*` = the members -/
def GroupModel.groupRow (g : Row N × List (Val N)) : Row N := setKey "*" (.arr g.2) (copyInto [] g.1)

/-- `ExecGroupBy` and `ExecHaving` (the `else` branch of `groupedRows` in `post`): the kept rows are grouped by their
    key rows, every group becomes the row `{key columns, *: members}`, HAVING filters those rows -/
def groupStage (ctx : Ctx N) (kept : List (Val N)) : R (List (Val N)) := do
  let gs ← groupLoop (groupKeyOf groupBy) GroupModel.keyEq kept []
  let keptGroups ← filterLoop (fun cur => do rawBool (← evalExpr env ctx cur having)) (gs.map GroupModel.groupRow)
  pure (keptGroups.map Val.obj)

/-- `ExecSelect` (the closure `selectRows`): one row for the whole level when the select list is all aggregates and
    there is no GROUP BY, else one output row per object and inner arrays as they are -/
def selStage (ctx : Ctx N) (rs : List (Val N)) : R (List (Val N)) :=
  selectRowsWith (fun fs => evalSel env ctx fs sel [])
    (if isAllAggr sel && !ctx.grouped then some (evalSel env ctx [] sel []) else none) rs

/-- `ExecDistinct`, `ExecOrderBy`, OFFSET / LIMIT: the last three lines of `post`, and of a union's `post` alike -/
def tailStage (rs : List (Val N)) : R (List (Val N)) := do
  let rs ← sortRows orderBy (if distinct then dedupBy valEq rs else rs)
  window rs offset limit

/-- the closure `post`: what `exec()` does on one level with the rows that passed WHERE (written in the shape of
    `prepare`, `!(!groupBy.isEmpty)` included, so that `prepare_select` is `rfl`) -/
def postStage (src kept : List (Val N)) : R (List (Val N)) := do
  let ctx := postCtx data (!groupBy.isEmpty) src kept
  let groupedRows ← (if !(!groupBy.isEmpty) then pure kept else groupStage env groupBy having ctx kept)
  let rs ← selStage env sel ctx groupedRows
  tailStage distinct orderBy limit offset rs

/-- the closure `run`: `exec()` on the resolved source — the select list alone on the one row of `dual`, else the
    filter loop with `whereStage` and `postStage` -/
def runSelect (rows : List (Val N)) : R (Val N) :=
  if dual then do
    let rs ← selStage env sel (postCtx data (!groupBy.isEmpty) rows rows) rows
    pure (rs.head?.getD .null)
  else do
    let out ← execLevel (whereStage env data (!groupBy.isEmpty) wh)
      (postStage env data distinct sel groupBy having orderBy limit offset) rows
    pure (.arr out)

/-- the rows one branch of a UNION contributes (`lrows` / `rrows` of `prepare`) -/
def sideRows (v : Val N) : R (List (Val N)) :=
  match v with
  | .null => pure []
  | v => asArray v

/-- `run` of a union: the filter loop with a WHERE that keeps everything and a `post` that copies every row as
    `SELECT *` does, then the common tail -/
def runUnion (rows : List (Val N)) : R (Val N) := do
  let out ← execLevel (fun _ _ => .ok true)
    (fun _ kept => do
      let rs ← mapE (fun r =>
        match r with
        | .arr xs => (.ok (.arr xs) : R (Val N))
        | .obj fs => .ok (.obj (copyInto [] (delKey "<-" fs)))
        | _ => .error .error) kept
      tailStage distinct orderBy limit offset rs)
    rows
  pure (.arr out)

variable {env data sc grouped dual distinct sel wh groupBy having orderBy limit offset}

theorem prepare_select (ctes : List (Cte N)) (frm : From N) :
    prepare env data sc (.select ctes distinct sel frm wh groupBy having orderBy limit offset) = (do
      let (data', sc') ← evalCtes env data { sc with fwd := cteNames ctes ++ sc.fwd } ctes
      let (rows, dual, _) ← evalFrom env data' sc' frm
      pure { frm := rows, run := runSelect env data' dual distinct sel wh groupBy having orderBy limit offset }) := by
  rw [prepare]; rfl

theorem prepare_select_nil (frm : From N) :
    prepare env data sc (.select [] distinct sel frm wh groupBy having orderBy limit offset) = (do
      let (rows, dual, _) ← evalFrom env data sc frm
      pure { frm := rows, run := runSelect env data dual distinct sel wh groupBy having orderBy limit offset }) := by
  rw [prepare_select]; rfl

theorem prepare_union (ctes : List (Cte N)) (l r : Query N) :
    prepare env data sc (.union ctes l r distinct orderBy limit offset) = (do
      let (data', sc') ← evalCtes env data { sc with fwd := cteNames ctes ++ sc.fwd } ctes
      let lrows ← execQuery env data' sc' l >>= sideRows
      let rrows ← execQuery env data' sc' r >>= sideRows
      pure { frm := lrows ++ rrows, run := runUnion distinct orderBy limit offset }) := by
  rw [prepare]; simp only [execQuery, bind_assoc]; rfl

theorem prepare_union_nil (l r : Query N) :
    prepare env data sc (.union [] l r distinct orderBy limit offset) = (do
      let lrows ← execQuery env data sc l >>= sideRows
      let rrows ← execQuery env data sc r >>= sideRows
      pure { frm := lrows ++ rrows, run := runUnion distinct orderBy limit offset }) := by
  rw [prepare_union]; rfl

theorem evalCtes_cons (name : String) (q : Query N) (rest : List (Cte N)) :
    evalCtes env data sc (.mk name q :: rest) =
      match execQuery env data sc q with
      | .ok v => evalCtes env (setKey name v data)
          { bad := sc.bad.filter (· ≠ name), fwd := sc.fwd.filter (· ≠ name) } rest
      | .error .oom => evalCtes env (delKey name data) { sc with fwd := name :: sc.fwd } rest
      | .error _ => evalCtes env (delKey name data) { bad := name :: sc.bad, fwd := sc.fwd.filter (· ≠ name) } rest := by
  rw [evalCtes]; rfl

theorem evalFrom_derived (q : Query N) (alias : String) :
    evalFrom env data sc (.derived q alias) = (do
      let rows ← execQuery env data sc q >>= asArray
      pure (processAlias rows alias, false, alias)) := by
  rw [evalFrom]; simp only [execQuery, bind_assoc]

/-- a one-key path that no CTE scope claims is read from the document -/
theorem evalFrom_key {t alias ident : String} (hf : t ∉ sc.fwd) (hb : t ∉ sc.bad) :
    evalFrom env data sc (.table [t] alias ident) =
      (match Val.get data t with
      | .null => (if [t] = ["dual"] then pure ([.obj data], true, ident) else pure ([], false, ident))
      | d => do
        let rows ← asArray d
        pure (processAlias rows alias, false, ident)) := by
  show (if t ∈ sc.fwd then _ else if t ∈ sc.bad then _ else _) = _
  rw [if_neg hf, if_neg hb, readPath_single]; rfl

theorem evalFrom_dual {ident : String} (hd : lookup? "dual" data = none) :
    evalFrom env data {} (.table ["dual"] "" ident) = .ok ([.obj data], true, ident) := by
  rw [evalFrom_key (sc := {}) List.not_mem_nil List.not_mem_nil, Val.get, hd]; rfl

theorem prepare_table {t ident : String} {xs : List (Val N)} (ht : Val.get data t = .arr xs) :
    prepare env data {} (.select [] distinct sel (.table [t] "" ident) wh groupBy having orderBy limit offset) =
      .ok { frm := xs, run := runSelect env data false distinct sel wh groupBy having orderBy limit offset } := by
  rw [prepare_select_nil, evalFrom_key (sc := {}) List.not_mem_nil List.not_mem_nil, ht]; rfl

theorem whereStage_ok {grouped : Bool} {wh : Expr N} {src : List (Val N)} {cur : Row N} {b : Bool}
    (h : evalExpr env (postCtx data grouped src src) cur wh = .ok (.v (.bool b))) :
    whereStage env data grouped wh src cur = .ok b := by
  rw [whereStage, h]; rfl

theorem whereStage_true {src : List (Val N)} {cur : Row N} :
    whereStage env data grouped (.bool true) src cur = .ok true := rfl

section
variable {ctx : Ctx N}

/-- a select list that is evaluated row by row, on a level of objects; these are `row x` for `x` in any list, so
    that a level of group rows fits as well as a level of table rows -/
theorem selStage_map {α : Type} {xs : List α} (row proj : α → Row N) (hna : (isAllAggr sel && !ctx.grouped) = false)
    (h : ∀ x ∈ xs, evalSel env ctx (row x) sel [] = .ok (proj x)) :
    selStage env sel ctx (xs.map fun x => Val.obj (row x)) = .ok (xs.map fun x => Val.obj (proj x)) := by
  rw [selStage, hna, if_neg Bool.false_ne_true, selectRowsWith, mapE_comp]
  exact mapE_eq_map_of_ok fun x hx => by simp only [h x hx]; rfl

theorem selStage_rows {rs : List (Row N)} (proj : Row N → Row N) (hna : (isAllAggr sel && !ctx.grouped) = false)
    (h : ∀ r ∈ rs, evalSel env ctx r sel [] = .ok (proj r)) :
    selStage env sel ctx (rs.map Val.obj) = .ok (rs.map fun r => Val.obj (proj r)) :=
  selStage_map id proj hna h

theorem selStage_arrays {α : Type} {xs : List α} {f : α → List (Val N)} (hna : (isAllAggr sel && !ctx.grouped) = false) :
    selStage env sel ctx (xs.map fun x => Val.arr (f x)) = .ok (xs.map fun x => Val.arr (f x)) := by
  rw [selStage, hna, if_neg Bool.false_ne_true, selectRowsWith, mapE_comp]
  exact mapE_eq_map_of_ok fun _ _ => rfl

theorem selStage_error {rs : List (Row N)} (hna : (isAllAggr sel && !ctx.grouped) = false) {r : Row N} (hr : r ∈ rs)
    (h : IsError (evalSel env ctx r sel [])) : IsError (selStage env sel ctx (rs.map Val.obj)) := by
  rw [selStage, hna, if_neg Bool.false_ne_true, selectRowsWith, mapE_comp]
  exact mapE_isError hr (isError_bind h)

theorem selStage_whole {rs : List (Val N)} {row : Row N} (hall : isAllAggr sel = true) (hg : ctx.grouped = false)
    (h : evalSel env ctx [] sel [] = .ok row) : selStage env sel ctx rs = .ok [Val.obj row] := by
  simp only [selStage, hall, hg, h, selectRowsWith]; rfl

end

theorem tailStage_bind {α : Type} (rs : List (Val N)) (g : List (Val N) → R α) :
    tailStage distinct orderBy limit offset rs >>= g = (do
      let sorted ← sortRows orderBy (if distinct then dedupBy valEq rs else rs)
      let out ← window sorted offset limit
      g out) :=
  bind_assoc ..

/-- the keys `sortRows` reads for one row (value and ASC flag per ORDER BY item) -/
def C05.rowKeys (orderBy : List (List String × Bool)) (r : Val N) : R (List (Val N × Bool)) :=
  mapE (fun (pa : List String × Bool) => do
    let v ← readPath pa.1 r
    let _ ← fmtR v
    pure (v, pa.2)) orderBy

/-- the model's comparator on keyed rows -/
def C05.keyedLess (a b : List (Val N × Bool) × Val N) : Bool :=
  match lessKeys ((a.1.zip b.1).map fun p => (p.1.1, p.2.1, p.1.2)) with
  | .ok r => r
  | .error _ => false

theorem sortRows_eq (rows : List (Val N)) :
    sortRows orderBy rows =
      (if orderBy.isEmpty || rows.length ≤ 1 then .ok rows
      else do
        let keyed ← mapE (fun r => do let ks ← C05.rowKeys orderBy r; pure (ks, r)) rows
        pure ((insertSort C05.keyedLess keyed).map (·.2))) := rfl

theorem sortRows_nil (rs : List (Val N)) : sortRows [] rs = .ok rs := rfl

theorem sortRows_short {rows : List (Val N)} (h : rows.length ≤ 1) : sortRows orderBy rows = .ok rows := by
  rw [sortRows_eq, decide_eq_true h, Bool.or_true, if_pos rfl]

theorem tailStage_plain (rs : List (Val N)) : tailStage false [] none none rs = .ok rs := by
  rw [tailStage, if_neg Bool.false_ne_true, sortRows_nil, C19.ok_bind, window_none]

theorem tailStage_single (v : Val N) : tailStage distinct orderBy limit offset [v] = window [v] offset limit := by
  have hd : (if distinct then dedupBy valEq [v] else [v]) = [v] := by cases distinct <;> rfl
  rw [tailStage, hd, sortRows_short (rows := [v]) (Nat.le_refl 1), C19.ok_bind]

theorem runUnion_rows (rows : List (Row N)) :
    runUnion distinct orderBy limit offset (rows.map Val.obj) = (do
      let out ← tailStage distinct orderBy limit offset (rows.map fun r => Val.obj (copyInto [] (delKey "<-" r)))
      pure (.arr out)) := by
  rw [runUnion, execLevel_true, mapE_comp,
    mapE_eq_map_of_ok (g := fun r => Val.obj (copyInto [] (delKey "<-" r))) fun _ _ => rfl]
  rfl

section
variable {src kept : List (Val N)}

theorem postStage_ungrouped {rs : List (Val N)} (h : selStage env sel (postCtx data false src kept) kept = .ok rs) :
    postStage env data distinct sel [] having orderBy limit offset src kept =
      tailStage distinct orderBy limit offset rs := by
  show (selStage env sel (postCtx data false src kept) kept >>= _) = _
  rw [h]; rfl

theorem postStage_ungrouped_error (h : IsError (selStage env sel (postCtx data false src kept) kept)) :
    IsError (postStage env data distinct sel [] having orderBy limit offset src kept) :=
  isError_bind (f := tailStage distinct orderBy limit offset) h

theorem postStage_grouped {k : String × List String} {ks : List (String × List String)} {grows : List (Val N)}
    (h : groupStage env (k :: ks) having (postCtx data true src kept) kept = .ok grows) :
    postStage env data distinct sel (k :: ks) having orderBy limit offset src kept =
      selStage env sel (postCtx data true src kept) grows >>= tailStage distinct orderBy limit offset := by
  show (groupStage env (k :: ks) having (postCtx data true src kept) kept >>= fun g => _) = _
  rw [h]; rfl

end

theorem groupStage_groups {ctx : Ctx N} {kept : List (Val N)} {gs : List (Row N × List (Val N))}
    (hv : Row N × List (Val N) → Bool) (hgs : groupLoop (groupKeyOf groupBy) GroupModel.keyEq kept [] = .ok gs)
    (hhav : ∀ g ∈ gs, (do rawBool (← evalExpr env ctx (GroupModel.groupRow g) having)) = .ok (hv g)) :
    groupStage env groupBy having ctx kept = .ok ((gs.filter hv).map fun g => Val.obj (GroupModel.groupRow g)) := by
  rw [groupStage, hgs]
  show (filterLoop _ (gs.map _) >>= _) = _
  rw [filterLoop_map _ _ hv gs hhav]
  exact congrArg Except.ok (List.map_map ..)

theorem execQuery_table {t ident : String} {xs : List (Val N)} (ht : Val.get data t = .arr xs) :
    execQuery env data {} (.select [] distinct sel (.table [t] "" ident) wh groupBy having orderBy limit offset) =
      runSelect env data false distinct sel wh groupBy having orderBy limit offset xs := by
  rw [execQuery, prepare_table ht]; rfl

/-- whatever the level holds (objects, inner arrays): what the filter loop returns goes on to `postStage` -/
theorem runSelect_level {rows kept : List (Val N)}
    (h : levelLoop (whereStage env data (!groupBy.isEmpty) wh)
      (postStage env data distinct sel groupBy having orderBy limit offset) rows rows = .ok kept) :
    runSelect env data false distinct sel wh groupBy having orderBy limit offset rows = (do
      let out ← postStage env data distinct sel groupBy having orderBy limit offset rows kept
      pure (.arr out)) := by
  rw [runSelect, if_neg Bool.false_ne_true, execLevel, h]; rfl

/-- flat: every element of the level is an object, so WHERE is `keep` row by row and `postStage` gets the kept rows.
    (`execQuery_flat` is this on a table read without alias; EXISTS runs the prepared query on rows it builds itself,
    the elements merged with the outer row, and comes in here: `C07.exists_iff`.) -/
theorem runSelect_flat {rows : List (Row N)} (keep : Row N → Bool)
    (hkeep : ∀ r ∈ rows, whereStage env data (!groupBy.isEmpty) wh (rows.map Val.obj) r = .ok (keep r)) :
    runSelect env data false distinct sel wh groupBy having orderBy limit offset (rows.map Val.obj) = (do
      let out ← postStage env data distinct sel groupBy having orderBy limit offset
        (rows.map Val.obj) ((rows.filter keep).map Val.obj)
      pure (.arr out)) :=
  runSelect_level (levelLoop_flat _ _ _ rows keep hkeep)

theorem execQuery_flat {t ident : String} {rows : List (Row N)} (ht : Val.get data t = .arr (rows.map Val.obj))
    (keep : Row N → Bool)
    (hkeep : ∀ r ∈ rows, whereStage env data (!groupBy.isEmpty) wh (rows.map Val.obj) r = .ok (keep r)) :
    execQuery env data {} (.select [] distinct sel (.table [t] "" ident) wh groupBy having orderBy limit offset) = (do
      let out ← postStage env data distinct sel groupBy having orderBy limit offset
        (rows.map Val.obj) ((rows.filter keep).map Val.obj)
      pure (.arr out)) := by
  rw [execQuery_table ht]
  exact runSelect_flat keep hkeep

theorem execQuery_table_error {t ident : String} {rows : List (Row N)} (ht : Val.get data t = .arr (rows.map Val.obj))
    {r : Row N} (hr : r ∈ rows)
    (hw : IsError (whereStage env data (!groupBy.isEmpty) wh (rows.map Val.obj) r)) :
    IsError (execQuery env data {}
      (.select [] distinct sel (.table [t] "" ident) wh groupBy having orderBy limit offset)) := by
  rw [execQuery_table ht, runSelect, if_neg Bool.false_ne_true]
  exact isError_bind (C19.execLevel_error _ _ rows r hr hw)

end Genql

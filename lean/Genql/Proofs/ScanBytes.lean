/-
  Genql.Proofs.ScanBytes — the six special bytes of the scanners are pairwise distinct: the table of all 30 ordered
  pairs as `simp` lemmas, so that `simp` settles every test `bX = bY` that unfolding a scanner on a special byte
  leaves, whichever way round the definition writes it.
-/
import Genql.Model.Scan

namespace Genql.Scan

@[simp] theorem bSq_ne_bBt : (bSq = bBt) = False := by decide
@[simp] theorem bSq_ne_bDq : (bSq = bDq) = False := by decide
@[simp] theorem bSq_ne_bBs : (bSq = bBs) = False := by decide
@[simp] theorem bSq_ne_bLb : (bSq = bLb) = False := by decide
@[simp] theorem bSq_ne_bRb : (bSq = bRb) = False := by decide
@[simp] theorem bBt_ne_bSq : (bBt = bSq) = False := by decide
@[simp] theorem bBt_ne_bDq : (bBt = bDq) = False := by decide
@[simp] theorem bBt_ne_bBs : (bBt = bBs) = False := by decide
@[simp] theorem bBt_ne_bLb : (bBt = bLb) = False := by decide
@[simp] theorem bBt_ne_bRb : (bBt = bRb) = False := by decide
@[simp] theorem bDq_ne_bSq : (bDq = bSq) = False := by decide
@[simp] theorem bDq_ne_bBt : (bDq = bBt) = False := by decide
@[simp] theorem bDq_ne_bBs : (bDq = bBs) = False := by decide
@[simp] theorem bDq_ne_bLb : (bDq = bLb) = False := by decide
@[simp] theorem bDq_ne_bRb : (bDq = bRb) = False := by decide
@[simp] theorem bBs_ne_bSq : (bBs = bSq) = False := by decide
@[simp] theorem bBs_ne_bBt : (bBs = bBt) = False := by decide
@[simp] theorem bBs_ne_bDq : (bBs = bDq) = False := by decide
@[simp] theorem bBs_ne_bLb : (bBs = bLb) = False := by decide
@[simp] theorem bBs_ne_bRb : (bBs = bRb) = False := by decide
@[simp] theorem bLb_ne_bSq : (bLb = bSq) = False := by decide
@[simp] theorem bLb_ne_bBt : (bLb = bBt) = False := by decide
@[simp] theorem bLb_ne_bDq : (bLb = bDq) = False := by decide
@[simp] theorem bLb_ne_bBs : (bLb = bBs) = False := by decide
@[simp] theorem bLb_ne_bRb : (bLb = bRb) = False := by decide
@[simp] theorem bRb_ne_bSq : (bRb = bSq) = False := by decide
@[simp] theorem bRb_ne_bBt : (bRb = bBt) = False := by decide
@[simp] theorem bRb_ne_bDq : (bRb = bDq) = False := by decide
@[simp] theorem bRb_ne_bBs : (bRb = bBs) = False := by decide
@[simp] theorem bRb_ne_bLb : (bRb = bLb) = False := by decide

end Genql.Scan

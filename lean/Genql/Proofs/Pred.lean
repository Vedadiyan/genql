/-
  Genql.Proofs.Pred — the pieces of C01 that are not about `evalExpr` as a whole: operands of the predicate fragment evaluate to
  their denotation, `compare.Compare` on two scalars of one kind, and `sem` on the forms that inspect operand values.

  Prefixes (`C01.`, `C05.`) as in `Proofs/Loops`.
-/
import Genql.Spec.Pred
import Genql.Model.Eval
import Genql.Lawful
import Genql.Proofs.Assoc
import Genql.Proofs.Loops
import Genql.Proofs.Eval
namespace Genql
variable {N : Type}

theorem num_of_kind {a : Val N} (h : kindOf a = some .num) : ∃ x, a = .num x := by
  cases a <;> cases h
  exact ⟨_, rfl⟩

theorem str_of_kind {a : Val N} (h : kindOf a = some .str) : ∃ x, a = .str x := by
  cases a <;> cases h
  exact ⟨_, rfl⟩

theorem C01.bool_of_kind {v : Val N} (h : kindOf v = some .bool) : ∃ b, v = .bool b := by
  cases v <;> cases h
  exact ⟨_, rfl⟩

theorem C05.isNull_of_kind {x : Val N} {κ : Kind} (h : kindOf x = some κ) : x.isNull = false := by
  cases x <;> cases h <;> rfl

theorem get_withMarker {k : String} (h : k ≠ "<-") (row data : Row N) :
    Val.get (withMarker row data) k = Val.get row k := by
  unfold Val.get withMarker
  rw [lookup?_setKey_other h]

/-- the rows an operand may be evaluated against: the row itself or the row with the marker -/
def Scoped (row cur : Row N) : Prop := cur = row ∨ ∃ d, cur = withMarker row d

theorem scoped_self (row : Row N) : Scoped row row := .inl rfl

theorem scoped_marker (row data : Row N) : Scoped row (withMarker row data) := .inr ⟨data, rfl⟩

theorem get_scoped {k : String} (h : k ≠ "<-") {row cur : Row N} (hs : Scoped row cur) :
    Val.get cur k = Val.get row k := by
  rcases hs with rfl | ⟨d, rfl⟩
  · rfl
  · exact get_withMarker h row d

theorem Operand.kind {row : Row N} {κ : Kind} {e : Expr N} (h : Operand row κ e) : kindOf (operand row e) = some κ := by
  cases h with
  | col k κ hk hkind => exact hkind
  | _ => rfl

variable [Num N]

/-- `ValueOf(Expr(e))` -/
theorem operand_value (env : Env N) (ctx : Ctx N) (hh : ctx.hard = false) {row cur : Row N}
    (hs : Scoped row cur) {κ : Kind} {e : Expr N} (h : Operand row κ e) :
    evalExpr env ctx cur e >>= valueOf cur = .ok (operand row e) := by
  cases h with
  | col k κ hk hkind => rw [evalExpr_col_value env ctx cur hh k, get_scoped hk hs]; rfl
  | _ => rfl

/-- … in two steps, for the forms that also look at the raw result -/
theorem operand_eval (env : Env N) (ctx : Ctx N) (hh : ctx.hard = false) {row cur : Row N}
    (hs : Scoped row cur) {κ : Kind} {e : Expr N} (h : Operand row κ e) :
    ∃ iv, evalExpr env ctx cur e = .ok iv ∧ valueOf cur iv = .ok (operand row e) :=
  bind_eq_ok (operand_value env ctx hh hs h)

/-! ### `sem` on the forms that inspect the operands' values (unfolding `sem` by `simp` is slow) -/

theorem sem_like (row : Row N) (a b : Expr N) : sem row (.cmp .like a b) =
    (match operand row a, operand row b with
     | .str s, .str p => likeMatch (lowerStr p).toList (lowerStr s).toList
     | _, _ => false) := rfl

theorem sem_notLike (row : Row N) (a b : Expr N) : sem row (.cmp .notLike a b) =
    (match operand row a, operand row b with
     | .str s, .str p => !likeMatch (lowerStr p).toList (lowerStr s).toList
     | _, _ => false) := rfl

theorem sem_is (row : Row N) (op : IsOp) (a : Expr N) : sem row (.is op a) =
    (match op with
     | .null => (operand row a).isNull
     | .notNull => !(operand row a).isNull
     | .true_ | .notFalse => (match operand row a with | .bool b => b | _ => false)
     | .notTrue | .false_ => (match operand row a with | .bool b => !b | _ => false)) := by
  cases op <;> rfl

theorem compareVal_num (a b : N) :
    compareVal (.num a : Val N) (.num b) =
      .ok (if Num.eq a b then 0 else if Num.lt b a then 1 else -1) := by
  simp [compareVal]

theorem compareVal_str (a b : String) :
    compareVal (.str a : Val N) (.str b) = .ok (cmpStr a b) := by
  simp [compareVal, fmtR, fmtV, bind, Except.bind, pure, Except.pure]

theorem compareVal_bool (a b : Bool) :
    compareVal (.bool a : Val N) (.bool b) = .ok (if a = b then 0 else if a then 1 else -1) := by
  -- Go compares the texts "true" / "false"
  cases a <;> cases b <;> rfl

section
variable [LawfulNum N]

theorem compare_trichotomy {a b : Val N} {κ : Kind} (hκ : κ ≠ .bool) (ha : kindOf a = some κ) (hb : kindOf b = some κ) :
    (eqV a b = true ∧ ltV a b = false ∧ ltV b a = false ∧ compareVal a b = .ok 0) ∨
    (eqV a b = false ∧ ltV a b = true ∧ ltV b a = false ∧ compareVal a b = .ok (-1)) ∨
    (eqV a b = false ∧ ltV a b = false ∧ ltV b a = true ∧ compareVal a b = .ok 1) := by
  cases a <;> cases ha <;> cases b <;> cases hb
  · exact absurd rfl hκ
  next x y =>
    simp only [eqV, ltV, compareVal_num]
    rcases LawfulNum.lt_total x y with h | rfl | h
    · exact .inr (.inl (by simp [h, Num.lt_ne h, LawfulNum.lt_asymm x y h]))
    · exact .inl (by simp [Num.eq_self, LawfulNum.lt_irrefl])
    · have he : Num.eq x y = false := by
        cases he : Num.eq x y
        · rfl
        · rw [(LawfulNum.eq_iff x y).1 he, LawfulNum.lt_irrefl] at h; cases h
      exact .inr (.inr (by simp [h, he, LawfulNum.lt_asymm y x h]))
  next x y =>
    simp only [eqV, ltV, compareVal_str, cmpStr]
    rcases Std.lt_trichotomy x y with h | rfl | h
    · exact .inr (.inl (by simp [h, String.lt_asymm h, Std.ne_of_lt h]))
    · exact .inl (by simp [String.lt_irrefl])
    · exact .inr (.inr (by simp [h, String.lt_asymm h, (Std.ne_of_lt h).symm]))

/-- the tests the comparison operators, BETWEEN and IN apply to the sign `compare.Compare` returns, on two scalars of one
    kind: `= 0` is `eqV` (booleans included), the order tests are those of `ltV` -/
theorem compareVal_tests {a b : Val N} {κ : Kind} (ha : kindOf a = some κ) (hb : kindOf b = some κ) :
    ∃ c : Int, compareVal a b = .ok c ∧ decide (c = 0) = eqV a b ∧
      (κ ≠ .bool → decide (c = -1) = ltV a b ∧ decide (c = 1) = ltV b a ∧
        decide (c ≥ 0) = (ltV b a || eqV a b) ∧ decide (c ≤ 0) = (ltV a b || eqV a b)) := by
  by_cases hκ : κ = .bool
  · subst hκ
    cases a <;> cases ha <;> cases b <;> cases hb
    next x y => exact ⟨_, compareVal_bool x y, by cases x <;> cases y <;> rfl, fun h => absurd rfl h⟩
  · rcases compare_trichotomy hκ ha hb with ⟨he, hl, hg, hc⟩ | ⟨he, hl, hg, hc⟩ | ⟨he, hl, hg, hc⟩ <;>
      exact ⟨_, hc, he ▸ rfl, fun _ => by rw [he, hl, hg]; exact ⟨rfl, rfl, rfl, rfl⟩⟩

end

end Genql

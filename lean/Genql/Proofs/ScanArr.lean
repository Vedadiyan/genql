/-
  Genql.Proofs.ScanArr — `FindArrayIndex` / `FixIdiomaticArray`: the index bookkeeping
  (FIFO pairing, successive string surgery with `offset += 5`) computes a plain byte-wise rewrite.
-/
import Genql.Model.Scan
import Genql.Proofs.ScanBytes

namespace Genql.Scan

/-! ### specification-side vocabulary -/

/-- what the lexer part of the loop (`lexStep`) says about every byte -/
def kinds : Bool → Option UInt8 → List UInt8 → List Kind
  | _, _, [] => []
  | skip, hold, c :: cs =>
    (lexStep skip hold c).2.2 :: kinds (lexStep skip hold c).1 (lexStep skip hold c).2.1 cs

/-- bracket depth after reading `ks` starting at depth `d`; `none` = a `]` at depth 0 -/
def depthAfter : Nat → List Kind → Option Nat
  | d, [] => some d
  | d, .lb :: ks => depthAfter (d + 1) ks
  | 0, .rb :: _ => none
  | d + 1, .rb :: ks => depthAfter d ks
  | d, .other :: ks => depthAfter d ks

/-- the byte-wise rewrite: `[` ↦ `ARRAY(`, `]` ↦ `)` on active brackets, everything else copied -/
def rewriteK : List Kind → List UInt8 → List UInt8
  | k :: ks, c :: cs =>
    (match k with
      | .lb => tokARRAY ++ [bLp]
      | .rb => [bRp]
      | .other => [c]) ++ rewriteK ks cs
  | _, _ => []

/-- positions (counted from `i`) of the active `[` -/
def opens : Nat → List Kind → List Nat
  | _, [] => []
  | i, .lb :: ks => i :: opens (i + 1) ks
  | i, _ :: ks => opens (i + 1) ks

/-- positions of the active `]` -/
def closes : Nat → List Kind → List Nat
  | _, [] => []
  | i, .rb :: ks => i :: closes (i + 1) ks
  | i, _ :: ks => closes (i + 1) ks

@[simp] theorem kinds_length (skip : Bool) (hold : Option UInt8) (s : List UInt8) :
    (kinds skip hold s).length = s.length := by
  induction s generalizing skip hold with
  | nil => rfl
  | cons c cs ih => simp [kinds, ih]

theorem opens_append (K₁ K₂ : List Kind) (i : Nat) :
    opens i (K₁ ++ K₂) = opens i K₁ ++ opens (i + K₁.length) K₂ := by
  induction K₁ generalizing i with
  | nil => rfl
  | cons k K ih => cases k <;> simp [opens, ih, Nat.add_assoc, Nat.add_comm 1]

theorem closes_append (K₁ K₂ : List Kind) (i : Nat) :
    closes i (K₁ ++ K₂) = closes i K₁ ++ closes (i + K₁.length) K₂ := by
  induction K₁ generalizing i with
  | nil => rfl
  | cons k K ih => cases k <;> simp [closes, ih, Nat.add_assoc, Nat.add_comm 1]

theorem rewriteK_append {K₁ : List Kind} {X₁ : List UInt8} (h : K₁.length = X₁.length) (K₂ : List Kind)
    (X₂ : List UInt8) :
    rewriteK (K₁ ++ K₂) (X₁ ++ X₂) = rewriteK K₁ X₁ ++ rewriteK K₂ X₂ := by
  induction K₁ generalizing X₁ with
  | nil => rw [List.length_eq_zero_iff.1 h.symm]; rfl
  | cons k K ih =>
    cases X₁ with
    | nil => simp at h
    | cons x X => simp only [List.cons_append, rewriteK, List.append_assoc, ih (Nat.succ.inj h)]

/-- (For any start index `i`: only the number of `opens` is used.  Likewise in `depthAfter_count`.) -/
theorem rewriteK_length (ks : List Kind) (X : List UInt8) (i : Nat) (h : ks.length = X.length) :
    (rewriteK ks X).length = X.length + 5 * (opens i ks).length := by
  induction ks generalizing X i with
  | nil => rw [List.length_eq_zero_iff.1 h.symm]; rfl
  | cons k ks ih =>
    cases X with
    | nil => simp at h
    | cons b X =>
      have := ih X (i + 1) (Nat.succ.inj h)
      cases k <;> simp only [rewriteK, opens, List.length_append, List.length_cons, List.length_nil, this] <;>
        omega

theorem depthAfter_count (ks : List Kind) (i d m : Nat) (h : depthAfter d ks = some m) :
    (closes i ks).length + m = d + (opens i ks).length := by
  induction ks generalizing i d with
  | nil => cases h; simp [opens, closes]
  | cons k ks ih =>
    cases k with
    | other => exact ih _ _ h
    | lb => have := ih (i + 1) _ h; simp only [opens, closes, List.length_cons]; omega
    | rb =>
      cases d with
      | zero => cases h
      | succ d => have := ih (i + 1) _ h; simp only [opens, closes, List.length_cons]; omega

/-- Inside a bracket a balanced rest has a first `]`.  With that one masked the rest is balanced one
    level lower: this is the step from one pair of the FIFO pairing to the next. -/
theorem exists_first_rb (ks : List Kind) (d : Nat) (h : depthAfter (d + 1) ks = some 0) :
    ∃ K₁ K₂, ks = K₁ ++ .rb :: K₂ ∧ (∀ i, closes i K₁ = []) ∧
      depthAfter d (K₁ ++ .other :: K₂) = some 0 := by
  induction ks generalizing d with
  | nil => simp [depthAfter] at h
  | cons k ks ih =>
    cases k with
    | rb => exact ⟨[], ks, rfl, fun _ => rfl, h⟩
    | lb =>
      obtain ⟨K₁, K₂, rfl, hc, hd⟩ := ih (d + 1) h
      exact ⟨.lb :: K₁, K₂, rfl, fun i => hc (i + 1), hd⟩
    | other =>
      obtain ⟨K₁, K₂, rfl, hc, hd⟩ := ih d h
      exact ⟨.other :: K₁, K₂, rfl, fun i => hc (i + 1), hd⟩

/-! ### `FindArrayIndex` = FIFO pairing -/

theorem setEnd_append (out₁ out₂ : List (Nat × Nat)) (p : Nat × Nat) (i : Nat) :
    setEnd (out₁ ++ p :: out₂) out₁.length i = .ok (out₁ ++ (p.1, i) :: out₂) := by
  simp [setEnd]

/-- The loop of `FindArrayIndex`, its output split into the pairs already closed and the `[` still
    open (`stack` holds the indices of the latter in `output`).  The k-th `[` is paired with the k-th
    `]`; the `m` pairs whose `]` never comes keep end 0; a `]` on an empty stack is the error. -/
theorem fbLoop_eq (cs : List UInt8) (skip : Bool) (hold : Option UInt8) (i : Nat)
    (closed : List (Nat × Nat)) (pending : List Nat) :
    fbLoop cs skip hold i (closed ++ pending.map (·, 0))
        (List.range' closed.length pending.length) (closed.length + pending.length)
      = match depthAfter pending.length (kinds skip hold cs) with
        | some m => .ok (closed ++ (pending ++ opens i (kinds skip hold cs)).zip
            (closes i (kinds skip hold cs) ++ List.replicate m 0))
        | none => .error .error := by
  induction cs generalizing skip hold i closed pending with
  | nil => simp [fbLoop, kinds, depthAfter, opens, closes, ← List.map_const', List.map_prod_left_eq_zip]
  | cons c cs ih =>
    rcases hl : lexStep skip hold c with ⟨sk, ho, k⟩
    cases k with
    | other => simp only [fbLoop, kinds, hl, depthAfter, opens, closes]; exact ih ..
    | lb =>
      have := ih sk ho (i + 1) closed (pending ++ [i])
      simp only [fbLoop, kinds, hl, depthAfter, opens, closes]
      simpa [List.range'_concat, Nat.add_assoc] using this
    | rb =>
      cases pending with
      | nil => simp [fbLoop, kinds, hl, depthAfter]
      | cons p ps =>
        have := ih sk ho (i + 1) (closed ++ [(p, i)]) ps
        simp only [fbLoop, kinds, hl, depthAfter, opens, closes, List.length_cons, List.range'_succ,
          List.map_cons, setEnd_append]
        simpa [Nat.add_assoc, Nat.add_comm 1] using this

theorem findBracketsE_eq (s : List UInt8) :
    findBracketsE s =
      match depthAfter 0 (kinds false none s) with
      | some m => .ok ((opens 0 (kinds false none s)).zip
          (closes 0 (kinds false none s) ++ List.replicate m 0))
      | none => .error .error := by
  simpa [findBracketsE] using fbLoop_eq s false none 0 [] []

/-- a pair that kept end 0 is caught by the `index[1] <= index[0]` test -/
theorem unclosed_any (L C : List Nat) (m : Nat) (h : C.length + (m + 1) = L.length) :
    (L.zip (C ++ List.replicate (m + 1) 0)).any (fun p => decide (p.2 ≤ p.1)) = true := by
  induction C generalizing L with
  | nil =>
    cases L with
    | nil => simp at h
    | cons l L => simp [List.replicate_succ]
  | cons c C ih =>
    cases L with
    | nil => simp at h
    | cons l L => simp [ih L (by simp at h; omega)]

/-! ### the successive rewrites of `FixIdiomaticArray` -/

theorem slice_append (U W V : List UInt8) (lo hi : Nat) (h1 : U.length = lo) (h2 : lo + W.length = hi) :
    slice (U ++ W ++ V) lo hi = .ok W := by
  subst h1 h2
  unfold slice
  rw [if_pos ⟨by omega, by simp only [List.length_append]; omega⟩, ← List.length_append,
    List.take_left' rfl, List.drop_left' rfl]

/-- one round of the second loop, the two brackets located by the lengths of what stands before
    them: `P` is `off` bytes longer than the `s` bytes of the original text it came from -/
theorem fixLoop_cons (P B D : List UInt8) (x y : UInt8) (s e off : Nat) (ps : List (Nat × Nat))
    (hs : P.length = s + off) (he : s + 1 + B.length = e) :
    fixLoop ((s, e) :: ps) off (P ++ x :: (B ++ y :: D))
      = fixLoop ps (off + 5) (P ++ tokARRAY ++ [bLp] ++ (B ++ bRp :: D)) := by
  have e1 := slice_append [] P (x :: (B ++ y :: D)) 0 (s + off) rfl (by simpa using hs)
  have e2 := slice_append (P ++ [x]) B (y :: D) (s + off + 1) (e + off) (by simp [hs]) (by omega)
  have e3 := slice_append (P ++ x :: (B ++ [y])) D [] (e + off + 1) (P ++ x :: (B ++ y :: D)).length
    (by simp; omega) (by simp; omega)
  simp only [List.nil_append, List.append_nil, List.append_assoc, List.cons_append] at e1 e2 e3
  simp only [fixLoop, e1, e2, e3, List.append_assoc, List.cons_append, List.nil_append, List.length_cons,
    List.length_nil]

theorem split_at {α : Type} (X : List α) (k : Nat) (h : k < X.length) :
    ∃ A x Y, X = A ++ x :: Y ∧ A.length = k :=
  ⟨X.take k, X[k], X.drop (k + 1), by simp, by simp; omega⟩

/-- Main lemma on the second loop of `FixIdiomaticArray`.  `P` is the part of the current string
    that is already final (it stands for the first `a` bytes of the original string and is `off`
    bytes longer), `X` the rest with its kinds `ks`, in which the `]` of pairs already spliced are
    masked (they are `)` by now and are copied).  The first remaining pair is the first `[` of `X`
    with the first `]`: the loop splices it, which makes `P` longer and masks that `]`. -/
theorem fixLoop_balanced (ks : List Kind) (X P : List UInt8) (a off : Nat)
    (hk : ks.length = X.length) (hP : P.length = a + off) (hd : depthAfter 0 ks = some 0) :
    (∀ p ∈ (opens a ks).zip (closes a ks), p.1 < p.2) ∧
    fixLoop ((opens a ks).zip (closes a ks)) off (P ++ X) = .ok (P ++ rewriteK ks X) := by
  induction hn : X.length generalizing ks X P a off with
  | zero =>
    rw [List.length_eq_zero_iff.1 hn] at hk ⊢
    rw [List.length_eq_zero_iff.1 hk]
    exact ⟨nofun, rfl⟩
  | succ n ih =>
    obtain _ | ⟨x, X⟩ := X
    · cases hn
    obtain _ | ⟨k, ks⟩ := ks
    · cases hk
    simp only [List.length_cons, Nat.add_right_cancel_iff] at hk hn
    cases k with
    | rb => cases hd
    | other =>
      have := ih ks X (P ++ [x]) (a + 1) off hk (by simp; omega) hd hn
      simpa only [opens, closes, rewriteK, List.append_assoc, List.singleton_append] using this
    | lb =>
      obtain ⟨K₁, K₂, rfl, hc, hd'⟩ := exists_first_rb ks 0 hd
      obtain ⟨B, y, D, rfl, hB⟩ := split_at X K₁.length (by simp at hk; omega)
      have := ih (K₁ ++ .other :: K₂) (B ++ bRp :: D) (P ++ tokARRAY ++ [bLp]) (a + 1) (off + 5)
        (by simpa using hk) (by simp; omega) hd' (by simpa using hn)
      simp only [opens, closes, opens_append, closes_append, hc, List.nil_append,
        List.zip_cons_cons, List.mem_cons, forall_eq_or_imp] at this ⊢
      refine ⟨⟨by omega, this.1⟩, ?_⟩
      rw [fixLoop_cons P B D x y a _ off _ hP (by omega), this.2, rewriteK,
        rewriteK_append hB.symm, rewriteK_append hB.symm]
      simp only [rewriteK, List.append_assoc, List.cons_append, List.nil_append]

/-- **`FixIdiomaticArray` completely characterised.**  It succeeds exactly on the strings whose
    active brackets are balanced, and then its result is the byte-wise rewrite; otherwise it returns
    an error.  In particular no slice/index expression is ever out of range. -/
theorem fixArrE_eq (s : List UInt8) :
    fixArrE s =
      if depthAfter 0 (kinds false none s) = some 0
      then .ok (rewriteK (kinds false none s) s) else .error .error := by
  unfold fixArrE
  rw [findBracketsE_eq]
  cases hd : depthAfter 0 (kinds false none s) with
  | none => rfl
  | some m =>
    cases m with
    | succ m =>
      simp only [unclosed_any _ _ m (by simpa using depthAfter_count _ 0 0 _ hd), if_true]
      exact (if_neg (by simp)).symm
    | zero =>
      have ⟨hlt, hfix⟩ := fixLoop_balanced _ s [] 0 0 (kinds_length ..) rfl hd
      have hany : ((opens 0 (kinds false none s)).zip (closes 0 (kinds false none s))).any
          (fun p => decide (p.2 ≤ p.1)) = false :=
        List.any_eq_false.2 fun p hp => by simpa using hlt p hp
      simp only [List.replicate_zero, List.append_nil, hany, Bool.false_eq_true, if_false, if_true]
      exact hfix

end Genql.Scan

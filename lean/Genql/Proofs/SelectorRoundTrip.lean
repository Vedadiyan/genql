/-
  Genql.Proofs.SelectorRoundTrip — a printer for selector ASTs and the proof that the parser of
  `Genql.Model.Selector` reads every well-formed AST back from its printed text.  For each printed piece (dimension,
  pipe item, step): which characters it has, and that it is one token of its pattern which its parser reads back
  (`print…_reads`, by the kinds of piece); a list of pieces joined by its separator then goes through
  `mapE_findAll_join`, the steps through `parseSelectorL_join`.
-/
import Genql.Proofs.Selector
namespace Genql.Sel
open Genql

/-! ## Printer -/

def printNat (n : Nat) : List Char := Nat.toDigits 10 n

def printBound (kw : List Char) : Option Nat → List Char
  | none => kw
  | some n => printNat n

def printDim : Dim → List Char
  | .idx i => printNat i
  | .each => kwEach
  | .range b e => '(' :: (printBound kwBegin b ++ ':' :: (printBound kwEnd e ++ [')']))

def printDims (ds : List Dim) : List Char := joinWith ':' (ds.map printDim)

def printPipeItem (p : String × String) : List Char :=
  p.1.toList ++ (if p.2.toList = [] then [] else '|' :: p.2.toList)

/-- keys are always printed quoted (so any key without a quote is printable) -/
def printStep : Step → List Char
  | .key k => '\'' :: (k.toList ++ ['\''])
  | .dims ds => '[' :: (printDims ds ++ [']'])
  | .keep ds => '[' :: (kwKeep ++ (printDims ds ++ [']']))
  | .pipe ps => '{' :: (joinWith ',' (ps.map printPipeItem) ++ ['}'])

def printSteps (steps : List Step) : List Char := joinWith '.' (steps.map printStep)

def printSel (p : Parsed) : List Char :=
  match p.fn with
  | some f => f.toList ++ '=' :: '>' :: printSteps p.steps
  | none => printSteps p.steps

/-! ## Well-formed ASTs: a sufficient condition for the printed text to be read back -/

def Dim.WF : Dim → Prop
  | .idx i => i ≤ maxInt64
  | .each => True
  | .range b e => (∀ n ∈ b, n ≤ maxInt64) ∧ (∀ n ∈ e, n ≤ maxInt64)

def WordChars (s : String) : Prop := ∀ c ∈ s.toList, isWord c = true

instance (s : String) : Decidable (WordChars s) :=
  inferInstanceAs (Decidable (∀ c ∈ s.toList, isWord c = true))

def Step.WF : Step → Prop
  | .key k => ∀ c ∈ k.toList, c ≠ '\''
  | .dims ds => ∀ d ∈ ds, d.WF
  | .keep ds => ∀ d ∈ ds, d.WF
  | .pipe ps => ∀ p ∈ ps, (p.1.toList ≠ [] ∧ WordChars p.1) ∧ WordChars p.2

def Parsed.WF (p : Parsed) : Prop := (∀ f ∈ p.fn, WordChars f) ∧ ∀ s ∈ p.steps, s.WF

/-! ## Numbers -/

theorem printNat_digits (n : Nat) : ∀ c ∈ printNat n, c.isDigit = true :=
  fun _ hc => Nat.isDigit_of_mem_toDigits (by decide) (by decide) hc

theorem printNat_ne_nil (n : Nat) : printNat n ≠ [] := Nat.toDigits_ne_nil

theorem printNat_head (n : Nat) : ∃ c cs, printNat n = c :: cs ∧ c.isDigit = true := by
  cases hp : printNat n with
  | nil => exact absurd hp (printNat_ne_nil n)
  | cons c cs => exact ⟨c, cs, rfl, printNat_digits n c (by simp [hp])⟩

theorem readIndex_printNat {n : Nat} (h : n ≤ maxInt64) : readIndex (printNat n) = .ok n := by
  have hv : Nat.ofDigitChars 10 (printNat n) 0 = n := Nat.ofDigitChars_ten_toDigits
  rw [readIndex_digits (printNat_ne_nil n) (printNat_digits n) (hv.symm ▸ h), hv]

/-! ## Dimensions -/

theorem printNat_ne_kw (n : Nat) {kw : List Char} (hk : ∀ c ∈ kw.head?, c.isDigit = false) :
    (printNat n == kw) = false := by
  obtain ⟨c, cs, hp, hc⟩ := printNat_head n
  rw [beq_eq_false_iff_ne, hp]
  rintro rfl
  exact absurd (hk c rfl) (by simp [hc])

theorem readBound_print {kw : List Char} (hk : ∀ c ∈ kw.head?, c.isDigit = false)
    (b : Option Nat) (hb : ∀ n ∈ b, n ≤ maxInt64) : readBound kw (printBound kw b) = .ok b := by
  cases b with
  | none => simp [readBound, printBound]
  | some n =>
    simp [readBound, printBound, printNat_ne_kw n hk, readIndex_printNat (hb n rfl), map_ok]

theorem printBound_chars {kw : List Char} (hkw : ∀ c ∈ kw, isWord c = true) (b : Option Nat) :
    ∀ c ∈ printBound kw b, isWord c = true := by
  cases b with
  | none => exact hkw
  | some n => exact fun c hc => isWord_of_isDigit (printNat_digits n c hc)

theorem printBound_ne_nil {kw : List Char} (hne : kw ≠ []) (b : Option Nat) : printBound kw b ≠ [] := by
  cases b with
  | none => exact hne
  | some n => exact printNat_ne_nil n

theorem kwBegin_word : ∀ c ∈ kwBegin, isWord c = true := by decide
theorem kwEnd_word : ∀ c ∈ kwEnd, isWord c = true := by decide
theorem kwEach_word : ∀ c ∈ kwEach, isWord c = true := by decide

/-- a character that is a word character or `d` is not the non-word character `q ≠ d` -/
theorem ne_of_word_or {c d q : Char} (h : isWord c = true ∨ c = d) (hq : isWord q = false) (hd : d ≠ q) : c ≠ q :=
  h.elim (isWord_ne · hq) (· ▸ hd)

theorem rangeBody_chars (b e : Option Nat) :
    ∀ c ∈ printBound kwBegin b ++ ':' :: printBound kwEnd e, isWord c = true ∨ c = ':' := by
  intro c hc
  rcases List.mem_append.mp hc with h | h
  · exact .inl (printBound_chars kwBegin_word b c h)
  · rcases List.mem_cons.mp h with h | h
    · exact .inr h
    · exact .inl (printBound_chars kwEnd_word e c h)

theorem printDim_range (b e : Option Nat) :
    printDim (.range b e) = '(' :: ((printBound kwBegin b ++ ':' :: printBound kwEnd e) ++ [')']) := by
  simp [printDim]

theorem readRange_print (b e : Option Nat) (hb : ∀ n ∈ b, n ≤ maxInt64) (he : ∀ n ∈ e, n ≤ maxInt64) :
    readRange (printDim (.range b e)) = .ok (.range b e) := by
  have hI := rangeBody_chars b e
  have h1 : trimBoth ' ' (printDim (.range b e)) = printDim (.range b e) := by
    rw [printDim_range]; exact trimBoth_ends (by decide) (by decide) _
  have h2 : trimRight ')' (trimLeft '(' (printDim (.range b e)))
      = printBound kwBegin b ++ ':' :: printBound kwEnd e := by
    rw [printDim_range]
    exact trim_delims (fun c hc => ne_of_word_or (hI c hc) not_word_lpar (by decide))
      (fun c hc => ne_of_word_or (hI c hc) not_word_rpar (by decide))
  have h3 := splitChar_two (sep := ':')
    (fun c hc => isWord_ne (printBound_chars kwBegin_word b c hc) not_word_colon)
    (fun c hc => isWord_ne (printBound_chars kwEnd_word e c hc) not_word_colon)
  simp only [readRange, h1, h2, h3]
  rw [readBound_print (by decide) b hb, readBound_print (by decide) e he]
  rfl

theorem printDim_reads (d : Dim) (hd : d.WF) :
    Token matchArray (· = ':') (printDim d) ∧ parseDim (printDim d) = .ok d := by
  cases d with
  | idx i =>
    refine ⟨matchArray_word (S := (· = ':')) (fun _ h => h ▸ rfl)
      ⟨printNat_ne_nil i, fun c hc => isWord_of_isDigit (printNat_digits i c hc)⟩, ?_⟩
    obtain ⟨c, cs, hp, hc⟩ := printNat_head i
    have h1 : (c == '(') = false := beq_false_of_ne (isDigit_ne hc rfl)
    have h2 := printNat_ne_kw i (kw := kwEach) (by decide)
    have h3 := readIndex_printNat (n := i) hd
    show parseDim (printNat i) = .ok (.idx i)
    rw [hp] at h2 h3 ⊢
    simp [parseDim, h1, h2, h3, map_ok]
  | each => exact ⟨matchArray_word (S := (· = ':')) (fun _ h => h ▸ rfl) ⟨by decide, kwEach_word⟩, rfl⟩
  | range b e =>
    refine ⟨printDim_range b e ▸ matchArray_paren (S := (· = ':')) (fun _ h => h ▸ rfl)
      fun c hc => ne_of_word_or (rangeBody_chars b e c hc) not_word_rpar (by decide), ?_⟩
    have := readRange_print b e hd.1 hd.2
    simp only [printDim] at this
    simp [parseDim, printDim, this]

theorem parseDims_print (ds : List Dim) (h : ∀ d ∈ ds, d.WF) :
    mapE parseDim (findAll matchArray 0 (printDims ds)) = .ok ds := by
  have := mapE_findAll_join (sep := ':') (S := (· = ':')) rfl matchArray_colon (g := id)
    (fun d hd => printDim_reads d (h d hd)) (stops_nil _) (findAll_nil _ _)
  rwa [List.append_nil, List.map_id] at this

/-! ## Array selectors -/

theorem printDim_chars (d : Dim) : ∀ c ∈ printDim d, isWord c = true ∨ c = '(' ∨ c = ')' ∨ c = ':' := by
  intro c hc
  cases d with
  | idx i => exact .inl (isWord_of_isDigit (printNat_digits i c hc))
  | each => exact .inl (kwEach_word c hc)
  | range b e =>
    rw [printDim_range] at hc
    rcases List.mem_cons.mp hc with rfl | hc
    · exact .inr (.inl rfl)
    · rcases List.mem_append.mp hc with hc | hc
      · exact (rangeBody_chars b e c hc).elim .inl fun h => .inr (.inr (.inr h))
      · exact .inr (.inr (.inl (List.mem_singleton.mp hc)))

theorem printDims_safe (ds : List Dim) (c : Char) (hc : c ∈ printDims ds) : (c ≠ '[' ∧ c ≠ ']') ∧ c ≠ '=' := by
  have : isWord c = true ∨ c = '(' ∨ c = ')' ∨ c = ':' := by
    rcases mem_joinWith hc with rfl | ⟨w, hw, hcw⟩
    · exact .inr (.inr (.inr rfl))
    · obtain ⟨d, _, rfl⟩ := List.mem_map.mp hw
      exact printDim_chars d c hcw
  rcases this with h | rfl | rfl | rfl
  · exact ⟨⟨isWord_ne h not_word_lbra, isWord_ne h not_word_rbra⟩, isWord_ne h not_word_eq⟩
  all_goals decide

theorem keepBody_safe (ds : List Dim) (c : Char) (hc : c ∈ kwKeep ++ printDims ds) : c ≠ '[' ∧ c ≠ ']' :=
  (List.mem_append.mp hc).elim ((by decide : ∀ c ∈ kwKeep, c ≠ '[' ∧ c ≠ ']') c) fun h => (printDims_safe ds c h).1

/-! ## Pipe selectors -/

theorem printPipeItem_reads (p : String × String) (hk : WordStr p.1.toList) (ht : WordChars p.2) :
    Token matchPipe PipeStop (printPipeItem p) ∧ parsePipeItem (printPipeItem p) = .ok p := by
  have hkp : ∀ c ∈ p.1.toList, c ≠ '|' := fun c hc => isWord_ne (hk.2 c hc) not_word_pipe
  have hkq : ∀ c ∈ p.1.toList, c ≠ '\'' := fun c hc => isWord_ne (hk.2 c hc) not_word_quote
  have hrest := fun rest (hr : Stops PipeStop rest) => stops_spanLen pipeStop_word hr
  rw [printPipeItem]
  by_cases hty : p.2.toList = []
  · have e : p.2 = "" := by
      rw [← String.toList_inj, hty]; rfl
    rw [if_pos hty, List.append_nil]
    refine ⟨⟨hk.1, fun rest hr => ?_⟩, ?_⟩
    · rw [matchPipe_word hk rest (hrest rest hr), mPipeTail_stop hr]; rfl
    · simp only [parsePipeItem, splitChar_none hkp, trimQuotes_id hkq, String.ofList_toList]
      rw [← e]
  · have htp : ∀ c ∈ p.2.toList, c ≠ '|' := fun c hc => isWord_ne (ht c hc) not_word_pipe
    rw [if_neg hty]
    refine ⟨⟨by simp [hk.1], fun rest hr => ?_⟩, ?_⟩
    · rw [List.append_assoc, List.cons_append, matchPipe_word hk _ rfl, mPipeTail_type ⟨hty, ht⟩ rest (hrest rest hr)]
      simp [Nat.add_comm]
    · simp only [parsePipeItem, splitChar_two hkp htp, trimQuotes_id hkq, String.ofList_toList]

theorem parsePipe_print (ps : List (String × String)) (h : (Step.pipe ps).WF) :
    parsePipe ('{' :: (joinWith ',' (ps.map printPipeItem) ++ ['}'])) = .ok (.pipe ps) := by
  have := mapE_findAll_join (sep := ',') (S := PipeStop) (.inl rfl) (fun rest => matchPipe_stop ',' rest (.inl (.inl rfl)))
    (g := id) (fun p hp => printPipeItem_reads p (h p hp).1 (h p hp).2)
    (stops_cons (.inr rfl) []) (findAll_nomatch matchPipe (matchPipe_stop '}' [] (.inl (.inr rfl))))
  rw [parsePipe, findAll_nomatch matchPipe (matchPipe_stop '{' _ (.inr rfl)), this, List.map_id]
  rfl

theorem pipeBody_safe (ps : List (String × String)) (h : (Step.pipe ps).WF) :
    ∀ c ∈ joinWith ',' (ps.map printPipeItem), c ≠ '{' ∧ c ≠ '}' := by
  intro c hc
  have : isWord c = true ∨ c = ',' ∨ c = '|' := by
    rcases mem_joinWith hc with rfl | ⟨w, hw, hcw⟩
    · exact .inr (.inl rfl)
    · obtain ⟨p, hp, rfl⟩ := List.mem_map.mp hw
      rcases List.mem_append.mp hcw with hcw | hcw
      · exact .inl ((h p hp).1.2 c hcw)
      · split at hcw
        · cases hcw
        · exact (List.mem_cons.mp hcw).elim (fun e => .inr (.inr e)) fun hcw => .inl ((h p hp).2 c hcw)
  rcases this with h | rfl | rfl
  · exact ⟨isWord_ne h not_word_lcur, isWord_ne h not_word_rcur⟩
  all_goals decide

/-! ## Steps -/

theorem printStep_reads (st : Step) (hst : st.WF) :
    Token matchFull (· = '.') (printStep st) ∧ parseTok (printStep st) = .ok st := by
  cases st with
  | key k =>
    refine ⟨matchFull_quoted (S := (· = '.')) (fun _ h => h ▸ rfl) hst, ?_⟩
    rw [printStep, parseTok_quoted hst, String.ofList_toList]
  | dims ds =>
    have hb := fun c hc => (printDims_safe ds c hc).1
    refine ⟨matchFull_lbra hb, ?_⟩
    -- the body holds no `=`, so it is not mistaken for `keep=>…`
    rw [printStep, parseTok_brackets hb, isPrefixOf_keep_false fun c hc => (printDims_safe ds c hc).2]
    simp only [Bool.false_eq_true, if_false, parseDims_print ds hst]
    rfl
  | keep ds =>
    rw [printStep, ← List.append_assoc]
    refine ⟨matchFull_lbra (keepBody_safe ds), ?_⟩
    rw [parseTok_brackets (keepBody_safe ds), List.isPrefixOf_iff_prefix.mpr (List.prefix_append _ _)]
    simp only [if_true, List.drop_left, parseDims_print ds hst]
    rfl
  | pipe ps => exact ⟨matchFull_lcur (pipeBody_safe ps hst), parsePipe_print ps hst⟩

/-! ## The whole selector -/

theorem parse_print (p : Parsed) (hp : p.WF) : parseSelectorL (printSel p) = .ok p := by
  obtain ⟨fn, steps⟩ := p
  have h := fun st hst => printStep_reads st (hp.2 st hst)
  cases fn with
  | none => exact (parseSelectorL_join h).trans (by rw [List.map_id'])
  | some f =>
    rw [printSel, parseSelectorL_fn (hp.1 f rfl), printSteps, parseSteps_join h, List.map_id', String.ofList_toList]
    rfl

end Genql.Sel

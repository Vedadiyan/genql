/-
  Genql.Proofs.ValInduct — an induction principle for the nested inductive `Val`.  It stands in `Genql.Sel`, the namespace
  of the selector proofs, its first users.
-/
import Genql.Basic
namespace Genql.Sel
open Genql
variable {N : Type} [Num N]

section induct
variable {P : Val N → Prop}
  (hnull : P .null) (hbool : ∀ b, P (.bool b)) (hnum : ∀ n, P (.num n)) (hstr : ∀ s, P (.str s))
  (harr : ∀ xs, (∀ x ∈ xs, P x) → P (.arr xs))
  (hobj : ∀ fs : List (String × Val N), (∀ p ∈ fs, P p.2) → P (.obj fs))
include hnull hbool hnum hstr harr hobj

omit [Num N] in
/-- the recursor of the nested inductive, with "every member satisfies `P`" as the motive of the two lists -/
theorem valInduct : ∀ v : Val N, P v :=
  Val.rec (motive_2 := fun xs => ∀ x ∈ xs, P x) (motive_3 := fun fs => ∀ p ∈ fs, P p.2)
    (motive_4 := fun p => P p.2) hnull hbool hnum hstr harr hobj
    (fun _ h => nomatch h) (fun _ _ hx ih _ h => List.mem_cons.mp h |>.elim (· ▸ hx) (ih _))
    (fun _ h => nomatch h) (fun _ _ hx ih _ h => List.mem_cons.mp h |>.elim (· ▸ hx) (ih _))
    (fun _ _ h => h)

-- `[Num N]` of the `variable` line is not used; the statement is kept as it stands
set_option linter.unusedSectionVars false in
theorem valInductFields : ∀ fs : List (String × Val N), ∀ p ∈ fs, P p.2 :=
  fun _ p _ => valInduct hnull hbool hnum hstr harr hobj p.2
end induct

end Genql.Sel

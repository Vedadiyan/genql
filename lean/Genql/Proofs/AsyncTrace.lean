/-
  The per-call event order of the wait-group model: after any schedule the events emitted so far
  on behalf of a waited call are a list determined by the state (`expected`), which grows along
  `wgAdd, go, invoke, (store,) wgDone, wgWait, (post)`.
-/
import Genql.Proofs.AsyncInv

namespace Genql.Async
variable {A V : Type}

theorem proj_append (c : Nat) (a b : List (Nat × Ev)) : proj c (a ++ b) = proj c a ++ proj c b := by
  simp [proj]

/-- Events of the goroutine body executed so far. -/
def taskEvs (st : Strategy) : Task → List Ev
  | .unspawned => []
  | .pending => []
  | .ran => [.invoke]
  | .stored => [.invoke, .store]
  | .done => if st = .async then [.invoke, .store, .wgDone] else [.invoke, .wgDone]

/-- `wgWait` and the event of the post-processor, once the main goroutine is past `wg.Wait()`. -/
def waitEvs (st : Strategy) (c : Nat) : Phase → List Ev
  | .post rest => .wgWait :: if st = .async ∧ c ∉ rest then [.post] else []
  | .returned => .wgWait :: if st = .async then [.post] else []
  | _ => []

theorem waitEvs_of_not_past {st : Strategy} {c : Nat} {ph : Phase} (h : ph.past = false) :
    waitEvs st c ph = [] := by
  cases ph <;> first | rfl | cases h

/-- The events call `c` has performed, as a function of the state. -/
def expected (q : Query A V) (s : St V) (c : Nat) : List Ev :=
  if c < s.pc then [.wgAdd, .go] ++ taskEvs (q.strat c) (s.task c) ++ waitEvs (q.strat c) c s.phase
  else if c = s.pc ∧ s.phase = .run true then [.wgAdd] else []

/-- `nodup` and `runposts` speak of the state alone: every ASYNC call passed is registered exactly
    once, so its single `post` event is due exactly when it leaves `pendingPosts`. -/
structure TraceInv (q : Query A V) (s : St V) (tr : List (Nat × Ev)) : Prop where
  pr : ∀ c, c < q.total → (q.strat c).waited = true → proj c tr = expected q s c
  nodup : (pendingPosts s).Nodup
  runposts : ∀ a, s.phase = .run a → ∀ c, c < s.pc → q.strat c = .async → c ∈ s.posts

theorem tinv_init (q : Query A V) : TraceInv q (init : St V) [] where
  pr := by intro c _ _; simp [proj, expected, init]
  nodup := by simp [pendingPosts, init]
  runposts := by simp [init]

/-- Every step goes through this: it suffices that `expected` grows by what the step emits. -/
theorem tinv_of {q : Query A V} {s s' : St V} {tr es : List (Nat × Ev)} (hT : TraceInv q s tr)
    (hpr : ∀ c, c < q.total → (q.strat c).waited = true →
      expected q s' c = expected q s c ++ proj c es)
    (hnd : (pendingPosts s').Nodup)
    (hrp : ∀ a, s'.phase = .run a → ∀ c, c < s'.pc → q.strat c = .async → c ∈ s'.posts) :
    TraceInv q s' (tr ++ es) where
  pr := by intro c hc hw; rw [proj_append, hT.pr c hc hw, hpr c hc hw]
  nodup := hnd
  runposts := hrp

theorem proj_single_ne {c c0 : Nat} {e : Ev} (hne : c ≠ c0) (he : e ≠ .wgWait) :
    proj c [(c0, e)] = [] := by
  have : ¬ c0 = c := fun x => hne x.symm
  simp [proj, this, he]

theorem proj_single_same {c : Nat} {e : Ev} : proj c [(c, e)] = [e] := by
  simp [proj]

theorem proj_nil (c : Nat) : proj c [] = [] := rfl

/-- A step other than `wg.Wait()` emits at most one event, on behalf of one call `c0`: no other
    call sees it. -/
theorem proj_tagged_ne {c c0 : Nat} {es : List (Nat × Ev)}
    (hes : es = [] ∨ ∃ e, es = [(c0, e)] ∧ e ≠ .wgWait) (hne : c ≠ c0) : proj c es = [] := by
  obtain rfl | ⟨e, rfl, he⟩ := hes
  · rfl
  · exact proj_single_ne hne he

/-- A step of the goroutine of call `c0` that emits `es`. -/
theorem tinv_task {q : Query A V} {s : St V} {tr es : List (Nat × Ev)} {c0 : Nat} {x : Task}
    {iv : Nat → Nat} {sl : Nat → Option V} {w : Nat}
    (h : Inv q s) (hT : TraceInv q s tr) (hopen : (s.task c0).isOpen = true)
    (hes : es = [] ∨ ∃ e, es = [(c0, e)] ∧ e ≠ .wgWait)
    (hev : (q.strat c0).waited = true →
      taskEvs (q.strat c0) x = taskEvs (q.strat c0) (s.task c0) ++ proj c0 es) :
    TraceInv q { s with task := upd s.task c0 x, invoked := iv, slot := sl, wg := w } (tr ++ es) := by
  have hlt : c0 < s.pc := h.lt_of_started (started_of_open hopen)
  refine tinv_of hT ?_ hT.nodup hT.runposts
  intro c hc hw
  by_cases hne : c = c0
  · subst hne
    have hnp : s.phase.past = false := by
      cases hp : s.phase.past
      · rfl
      · have := h.alldone hp c hc hw; rw [this] at hopen; cases hopen
    simp [expected, hlt, waitEvs_of_not_past hnp, hev hw]
  · rw [proj_tagged_ne hes hne, List.append_nil]
    simp only [expected, upd_ne hne]

theorem tinv_stepTask {q : Query A V} {s s' : St V} {tr : List (Nat × Ev)} {c : Nat}
    (h : Inv q s) (hT : TraceInv q s tr) (st : stepTask q s c = some s') :
    TraceInv q s' (tr ++ emits q s (c + 1)) := by
  unfold stepTask at st
  unfold emits
  split at st
  · -- pending → ran: `invoke`
    rename_i ht
    cases st
    simp only [ht]
    exact tinv_task h hT (by rw [ht]; rfl) (.inr ⟨_, rfl, nofun⟩) (fun _ => by rw [ht, proj_single_same]; rfl)
  · -- ran → stored (ASYNC): `store`
    rename_i ht hs
    cases st
    simp only [ht, hs]
    exact tinv_task h hT (by rw [ht]; rfl) (.inr ⟨_, rfl, nofun⟩) (fun _ => by rw [ht, proj_single_same]; rfl)
  · -- ran → done (SPINASYNC): `wgDone`
    rename_i ht hs
    cases st
    simp only [ht, hs]
    exact tinv_task h hT (by rw [ht]; rfl) (.inr ⟨_, rfl, nofun⟩) (fun _ => by rw [ht, proj_single_same, hs]; rfl)
  · -- ran → done (SPIN): no event, and not a waited call
    rename_i ht hs
    cases st
    simp only [ht, hs]
    exact tinv_task h hT (by rw [ht]; rfl) (.inl rfl) (fun hw => by rw [hs] at hw; cases hw)
  · -- stored → done (ASYNC): `wgDone`
    rename_i ht
    cases st
    simp only [ht]
    exact tinv_task h hT (by rw [ht]; rfl) (.inr ⟨_, rfl, nofun⟩)
      (fun _ => by rw [ht, proj_single_same, h.async_of_stored ht]; rfl)
  · cases st

/-- The main goroutine moves past the current call. -/
theorem tinv_advance {q : Query A V} {s s' : St V} {tr es : List (Nat × Ev)} {added : Bool}
    (hT : TraceInv q s tr) (hph : s.phase = .run added)
    (hpc : s'.pc = s.pc + 1) (hph' : s'.phase = .run false)
    (htask : ∀ c, c ≠ s.pc → s'.task c = s.task c)
    (hes : es = [] ∨ ∃ e, es = [(s.pc, e)] ∧ e ≠ .wgWait)
    (hw : (q.strat s.pc).waited = true → added = true ∧ es = [(s.pc, .go)] ∧ s'.task s.pc = .pending ∧
      (q.strat s.pc = .async → s.pc ∈ s'.posts))
    (hnd : s'.posts.Nodup) (hsub : ∀ c, c ∈ s.posts → c ∈ s'.posts) :
    TraceInv q s' (tr ++ es) := by
  refine tinv_of hT ?_ (by simpa [pendingPosts, hph'] using hnd) ?_
  · intro c hc hwc
    by_cases hne : c = s.pc
    · subst hne
      obtain ⟨ha, he, ht, _⟩ := hw hwc
      subst ha
      rw [he, proj_single_same]
      simp [expected, hpc, hph', hph, ht, taskEvs, waitEvs]
    · rw [proj_tagged_ne hes hne, List.append_nil]
      have h1 : c < s.pc + 1 ↔ c < s.pc := by omega
      simp [expected, hpc, hph', hph, h1, hne, htask c hne, waitEvs]
  · intro a _ c hc hs
    rw [hpc] at hc
    by_cases hne : c = s.pc
    · subst hne; exact (hw (by rw [hs]; rfl)).2.2.2 hs
    · exact hsub c (hT.runposts added hph c (by omega) hs)

/-- `wg.Add(1)` of the current (waited) call. -/
theorem tinv_add {q : Query A V} {s : St V} {tr : List (Nat × Ev)} (hT : TraceInv q s tr)
    (hph : s.phase = .run false) :
    TraceInv q { s with phase := .run true, wg := s.wg + 1 } (tr ++ [(s.pc, .wgAdd)]) := by
  refine tinv_of hT ?_ (by simpa [pendingPosts, hph] using hT.nodup) ?_
  · intro c hc hw
    by_cases hne : c = s.pc
    · subst hne; simp [expected, hph, proj_single_same]
    · rw [proj_single_ne hne (by simp), List.append_nil]
      simp [expected, hph, hne, waitEvs]
  · intro a _ c hc hs'; exact hT.runposts false hph c hc hs'

theorem tinv_evalCall {q : Query A V} {s : St V} {tr : List (Nat × Ev)} {added : Bool} (h : Inv q s)
    (hT : TraceInv q s tr) (hph : s.phase = .run added) (hlt : s.pc < q.total) :
    TraceInv q (evalCall q s added) (tr ++ emits q s 0) := by
  have hnd : s.posts.Nodup := pendingPosts_run hph ▸ hT.nodup
  unfold emits
  simp only [hph, hlt, if_true]
  by_cases hrej : q.rejected s.pc = true
  · rw [if_pos hrej, evalCall_rejected hrej]
    have hadd := h.run_false hph (.inr (.inr hrej)); subst hadd
    refine tinv_of hT ?_ hnd nofun
    intro c hc hw
    simp [expected, hph, proj_nil, waitEvs]
  · unfold evalCall
    simp only
    rw [if_neg hrej, if_neg hrej]
    split
    · -- plain
      rename_i hs
      have hadd := h.run_false hph (.inr (.inl (by rw [hs]; rfl))); subst hadd
      exact tinv_advance hT hph rfl hph (fun _ _ => rfl) (.inr ⟨_, rfl, nofun⟩)
        (fun hw => by rw [hs] at hw; cases hw) hnd (fun _ x => x)
    · -- once
      rename_i hs
      have hadd := h.run_false hph (.inr (.inl (by rw [hs]; rfl))); subst hadd
      split
      · exact tinv_advance hT hph rfl hph (fun _ _ => rfl) (.inl rfl)
          (fun hw => by rw [hs] at hw; cases hw) hnd (fun _ x => x)
      · exact tinv_advance hT hph rfl hph (fun _ _ => rfl) (.inr ⟨_, rfl, nofun⟩)
          (fun hw => by rw [hs] at hw; cases hw) hnd (fun _ x => x)
    · -- spin
      rename_i hs
      have hadd := h.run_false hph (.inr (.inl (by rw [hs]; rfl))); subst hadd
      exact tinv_advance hT hph rfl hph (fun c hne => upd_ne hne) (.inr ⟨_, rfl, nofun⟩)
        (fun hw => by rw [hs] at hw; cases hw) hnd (fun _ x => x)
    · -- async
      rename_i hs
      cases added
      · simp only [Bool.false_eq_true, if_false]
        exact tinv_add hT hph
      · simp only [if_true]
        have hnot : s.pc ∉ s.posts := by
          intro hm
          have := (h.pend_run hph s.pc hm).1
          omega
        exact tinv_advance hT hph rfl rfl (fun c hne => upd_ne hne) (.inr ⟨_, rfl, nofun⟩)
          (fun _ => ⟨rfl, rfl, upd_same _ _ _, fun _ => List.mem_append_right _ (List.mem_singleton_self _)⟩)
          (List.nodup_append.2 ⟨hnd, List.pairwise_singleton _ _, fun a ha b hb e => by
            rw [List.mem_singleton] at hb; subst hb e; exact hnot ha⟩)
          (fun c x => List.mem_append_left _ x)
    · -- spinasync
      rename_i hs
      cases added
      · simp only [Bool.false_eq_true, if_false]
        exact tinv_add hT hph
      · simp only [if_true]
        exact tinv_advance hT hph rfl rfl (fun c hne => upd_ne hne) (.inr ⟨_, rfl, nofun⟩)
          (fun _ => ⟨rfl, rfl, upd_same _ _ _, fun ha => by rw [hs] at ha; cases ha⟩) hnd (fun _ x => x)

theorem tinv_stepMain {q : Query A V} {s s' : St V} {tr : List (Nat × Ev)} (h : Inv q s)
    (hT : TraceInv q s tr) (st : stepMain q s = some s') : TraceInv q s' (tr ++ emits q s 0) := by
  unfold stepMain at st
  split at st
  · rename_i added hph
    split at st
    · rename_i hlt; cases st; exact tinv_evalCall h hT hph hlt
    · rename_i hlt
      split at st
      · -- `wg.Wait()` returns
        rename_i hwg
        cases st
        have hadd := h.run_false hph (.inl hlt); subst hadd
        have hpc : s.pc = q.total := by have := h.pc_le; omega
        unfold emits
        simp only [hph, hlt, hwg, if_true, if_false]
        refine tinv_of hT ?_ (pendingPosts_run hph ▸ hT.nodup) nofun
        intro c hc hw
        have hlt' : c < s.pc := by omega
        simpa [proj, expected, hlt', hph, waitEvs] using hT.runposts false hph c hlt'
      · cases st
  · -- a post-processor
    rename_i c0 rest hph
    cases st
    unfold emits
    simp only [hph]
    have hnd : (c0 :: rest).Nodup := by simpa [pendingPosts, hph] using hT.nodup
    have hc0 := h.pend c0 (by simp [pendingPosts, hph])
    refine tinv_of hT ?_ (by simpa [pendingPosts] using (List.nodup_cons.1 hnd).2) nofun
    intro c hc hw
    by_cases hne : c = c0
    · subst hne
      have hnot : c ∉ rest := (List.nodup_cons.1 hnd).1
      rw [proj_single_same]
      simp [expected, hc0.1, hph, waitEvs, hc0.2, hnot]
    · rw [proj_single_ne hne (by simp), List.append_nil]
      simp [expected, hph, waitEvs, hne]
  · -- return
    rename_i hph
    cases st
    unfold emits
    simp only [hph]
    refine tinv_of hT ?_ (by simp [pendingPosts]) nofun
    intro c hc hw
    simp [expected, hph, waitEvs, proj_nil]
  · cases st
  · cases st

theorem tinv_step {q : Query A V} {s s' : St V} {tr : List (Nat × Ev)} {t : Nat} (h : Inv q s)
    (hT : TraceInv q s tr) (st : step q s t = some s') : TraceInv q s' (tr ++ emits q s t) := by
  cases t with
  | zero => exact tinv_stepMain h hT st
  | succ c => exact tinv_stepTask h hT st

theorem tinv_run (q : Query A V) : ∀ (sched : List Nat) (s : St V) (tr : List (Nat × Ev)),
    Inv q s → TraceInv q s tr → TraceInv q (run q s sched) (tr ++ trace q s sched)
  | [], _, _, _, hT => by simpa [run, trace] using hT
  | t :: ts, s, tr, h, hT => by
    unfold run trace
    split
    · rename_i s' hs
      rw [← List.append_assoc]
      exact tinv_run q ts s' _ (inv_step h hs) (tinv_step h hT hs)
    · exact tinv_run q ts s tr h hT

/-- After any schedule the events of a waited call are exactly the state-determined prefix of
    the protocol order. -/
theorem trace_expected (q : Query A V) (sched : List Nat) (c : Nat) (hc : c < q.total)
    (hw : (q.strat c).waited = true) :
    proj c (trace q (init : St V) sched) = expected q (run q (init : St V) sched) c :=
  (tinv_run q sched init [] (inv_init q) (tinv_init q)).pr c hc hw

end Genql.Async

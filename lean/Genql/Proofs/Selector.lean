/-
  Genql.Proofs.Selector — lemmas about the selector model (`Genql.Model.Selector`): characters,
  trims and splits; `findAll` on tokens joined by a separator; what the three patterns match (`\w+`, quoted and
  bracketed tokens) and what `ParseSelector` reads from such tokens; `::`; the equations of the evaluator; `Unwind`, `Mix`
  and the pipe loop; and, resting on these, that nothing panics.
-/
import Genql.Model.Selector
import Genql.Proofs.Loops
import Genql.Proofs.ValInduct
set_option linter.unusedSectionVars false
namespace Genql.Sel
open Genql
variable {N : Type} [Num N]

/-! ## Characters, spans, trims, splits -/

theorem isWord_ne {c d : Char} (hc : isWord c = true) (hd : isWord d = false) : c ≠ d := by
  intro h; subst h; simp [hc] at hd

theorem not_word_quote : isWord '\'' = false := by decide
theorem not_word_dot : isWord '.' = false := by decide
theorem not_word_lt : isWord '<' = false := by decide
theorem not_word_star : isWord '*' = false := by decide
theorem not_word_lbra : isWord '[' = false := by decide
theorem not_word_lcur : isWord '{' = false := by decide
theorem not_word_eq : isWord '=' = false := by decide
theorem not_word_colon : isWord ':' = false := by decide
theorem not_word_lpar : isWord '(' = false := by decide
theorem not_word_rpar : isWord ')' = false := by decide
theorem not_word_rbra : isWord ']' = false := by decide
theorem not_word_rcur : isWord '}' = false := by decide
theorem not_word_comma : isWord ',' = false := by decide
theorem not_word_pipe : isWord '|' = false := by decide
theorem not_word_bang : isWord '!' = false := by decide

theorem spanLen_append {p : Char → Bool} {w : List Char} (hw : ∀ c ∈ w, p c = true) (rest : List Char) :
    spanLen p (w ++ rest) = w.length + spanLen p rest := by
  induction w with
  | nil => simp
  | cons c w ih =>
    have hc := hw c (by simp)
    simp only [List.cons_append, spanLen, hc, if_true, List.length_cons]
    rw [ih (fun d hd => hw d (by simp [hd]))]; omega

theorem spanLen_stop {p : Char → Bool} {c : Char} (hc : p c = false) (rest : List Char) :
    spanLen p (c :: rest) = 0 := by simp [spanLen, hc]

theorem spanLen_all {p : Char → Bool} {w : List Char} (hw : ∀ c ∈ w, p c = true) : spanLen p w = w.length := by
  have := spanLen_append hw []
  simpa [spanLen] using this

theorem trimLeft_id {q : Char} {w : List Char} (h : ∀ c ∈ w, c ≠ q) : trimLeft q w = w := by
  cases w with
  | nil => rfl
  | cons c w =>
    have hc : (c == q) = false := beq_false_of_ne (h c (by simp))
    simp [trimLeft, List.dropWhile, hc]

theorem trimRight_id {q : Char} {w : List Char} (h : ∀ c ∈ w, c ≠ q) : trimRight q w = w := by
  have := trimLeft_id (q := q) (w := w.reverse) (fun c hc => h c (by simpa using hc))
  simp only [trimLeft] at this
  simp [trimRight, this]

theorem trimBoth_id {q : Char} {w : List Char} (h : ∀ c ∈ w, c ≠ q) : trimBoth q w = w := by
  simp [trimBoth, trimLeft_id h, trimRight_id h]

theorem trimQuotes_id {w : List Char} (h : ∀ c ∈ w, c ≠ '\'') : trimQuotes w = w :=
  trimBoth_id h

theorem trimRight_snoc (q : Char) (w : List Char) : trimRight q (w ++ [q]) = trimRight q w := by
  simp [trimRight]

theorem trimLeft_cons_self (q : Char) (w : List Char) : trimLeft q (q :: w) = trimLeft q w := by
  simp [trimLeft, List.dropWhile]

/-- only the two ends matter to a trim -/
theorem trimBoth_ends {q a b : Char} (ha : a ≠ q) (hb : b ≠ q) (w : List Char) :
    trimBoth q (a :: (w ++ [b])) = a :: (w ++ [b]) := by
  have ha' : (a == q) = false := beq_false_of_ne ha
  have hb' : (b == q) = false := beq_false_of_ne hb
  simp [trimBoth, trimLeft, trimRight, List.dropWhile, ha', hb']

/-- `o w c` with neither delimiter inside `w` (`o = c` allowed): the two trims strip exactly the delimiters -/
theorem trim_delims {o c : Char} {w : List Char} (ho : ∀ x ∈ w, x ≠ o) (hc : ∀ x ∈ w, x ≠ c) :
    trimRight c (trimLeft o (o :: (w ++ [c]))) = w := by
  rw [trimLeft_cons_self]
  cases w with
  | nil => by_cases h : c = o <;> simp [trimLeft, trimRight, List.dropWhile, h]
  | cons x w =>
    have hx : (x == o) = false := beq_false_of_ne (ho x (by simp))
    have h1 : trimLeft o (x :: w ++ [c]) = (x :: w) ++ [c] := by simp [trimLeft, hx]
    rw [h1, trimRight_snoc, trimRight_id hc]

theorem consHead_ne_nil (c : Char) (l : List (List Char)) : consHead c l ≠ [] := by
  cases l <;> nofun

theorem splitChar_ne_nil (sep : Char) : ∀ cs, splitChar sep cs ≠ []
  | [] => nofun
  | c :: cs => by
    rw [splitChar]
    split
    · nofun
    · exact consHead_ne_nil _ _

theorem splitChar_none {sep : Char} {cs : List Char} (h : ∀ c ∈ cs, c ≠ sep) : splitChar sep cs = [cs] := by
  induction cs with
  | nil => rfl
  | cons c cs ih =>
    have hc : (c == sep) = false := beq_false_of_ne (h c (by simp))
    simp [splitChar, hc, ih (fun d hd => h d (by simp [hd])), consHead]

theorem splitChar_two {sep : Char} {a b : List Char} (ha : ∀ c ∈ a, c ≠ sep) (hb : ∀ c ∈ b, c ≠ sep) :
    splitChar sep (a ++ sep :: b) = [a, b] := by
  induction a with
  | nil => simp [splitChar, splitChar_none hb]
  | cons c a ih =>
    have hc : (c == sep) = false := beq_false_of_ne (ha c (by simp))
    simp [splitChar, hc, ih (fun d hd => ha d (by simp [hd])), consHead]

theorem splitArrow_fn {f : List Char} (hf : ∀ c ∈ f, isWord c = true) (rest : List Char) :
    splitArrow (f ++ '=' :: '>' :: rest) = some (f, rest) := by
  induction f with
  | nil => simp [splitArrow]
  | cons c f ih =>
    have hc : (c == '=') = false := beq_false_of_ne (isWord_ne (hf c (by simp)) not_word_eq)
    simp [splitArrow, hc, ih (fun d hd => hf d (by simp [hd]))]

theorem splitArrow_some {cs f rest : List Char} (h : splitArrow cs = some (f, rest)) : cs = f ++ '=' :: '>' :: rest := by
  induction cs generalizing f with
  | nil => cases h
  | cons c cs ih =>
    rw [splitArrow] at h
    by_cases hc : (c == '=' && cs.head? == some '>') = true
    · rw [if_pos hc] at h
      cases h
      have hc := Bool.and_eq_true_iff.mp hc
      obtain ⟨t, rfl⟩ := List.head?_eq_some_iff.mp (eq_of_beq hc.2)
      rw [eq_of_beq hc.1]; rfl
    · rw [if_neg hc] at h
      obtain ⟨p, hp, e⟩ := Option.map_eq_some_iff.mp h
      cases e
      rw [ih hp]; rfl

/-! ### digits and `ReadIndex` -/

theorem isWord_of_isDigit {c : Char} (h : c.isDigit = true) : isWord c = true := by
  simp [isWord, Char.isAlphanum, h]

theorem isDigit_ne {c d : Char} (hc : c.isDigit = true) (hd : d.isDigit = false) : c ≠ d := by
  intro h; subst h; simp [hc] at hd

theorem digitsVal_eq {cs : List Char} (h : ∀ c ∈ cs, c.isDigit = true) (acc : Nat) :
    digitsVal cs acc = some (Nat.ofDigitChars 10 cs acc) := by
  induction cs generalizing acc with
  | nil => simp [digitsVal]
  | cons c cs ih =>
    have hc := h c (by simp)
    have e : '0'.toNat = 48 := by decide
    simp only [digitsVal, hc, if_true, Nat.ofDigitChars_cons, e]
    rw [ih (fun d hd => h d (by simp [hd])), Nat.mul_comm]

theorem splitSign_digits {cs : List Char} (h : ∀ d ∈ cs, d.isDigit = true) : splitSign cs = (false, cs) := by
  cases cs with
  | nil => rfl
  | cons c cs =>
    have hc := h c List.mem_cons_self
    have h1 : (c == '-') = false := beq_false_of_ne (isDigit_ne hc rfl)
    have h2 : (c == '+') = false := beq_false_of_ne (isDigit_ne hc rfl)
    simp [splitSign, h1, h2]

theorem readIndex_digits {cs : List Char} (hne : cs ≠ []) (h : ∀ d ∈ cs, d.isDigit = true)
    (hmax : Nat.ofDigitChars 10 cs 0 ≤ maxInt64) : readIndex cs = .ok (Nat.ofDigitChars 10 cs 0) := by
  simp [readIndex, splitSign_digits h, hne, digitsVal_eq h, hmax]

/-! ## `FindAllString` -/

theorem findAll_nil (m : List Char → Option Nat) (k : Nat) : findAll m k [] = [] := by
  cases k <;> simp [findAll]

theorem findAll_ne_nil (m : List Char → Option Nat) :
    ∀ (cs : List Char) (k : Nat), ∀ t ∈ findAll m k cs, t ≠ []
  | [], k => by simp [findAll]
  | c :: cs, k + 1 => by
    simp only [findAll]; exact findAll_ne_nil m cs k
  | c :: cs, 0 => by
    simp only [findAll]
    split
    · rename_i n _
      intro t ht
      simp only [List.mem_cons] at ht
      rcases ht with rfl | ht
      · simp
      · exact findAll_ne_nil m cs n t ht
    · exact findAll_ne_nil m cs 0

theorem findAll_skip (m : List Char → Option Nat) :
    ∀ (xs rest : List Char), findAll m xs.length (xs ++ rest) = findAll m 0 rest
  | [], rest => by
    cases rest <;> simp [findAll]
  | x :: xs, rest => by
    simp only [List.length_cons, List.cons_append, findAll]
    exact findAll_skip m xs rest

theorem findAll_match (m : List Char → Option Nat) {t : List Char} (ht : t ≠ []) (rest : List Char)
    (hm : m (t ++ rest) = some t.length) : findAll m 0 (t ++ rest) = t :: findAll m 0 rest := by
  cases t with
  | nil => exact absurd rfl ht
  | cons c t =>
    simp only [List.cons_append, List.length_cons] at hm ⊢
    simp only [findAll, hm, List.take_succ_cons, List.cons.injEq, true_and]
    exact ⟨by rw [List.take_left' rfl], findAll_skip m t rest⟩

theorem findAll_nomatch (m : List Char → Option Nat) {c : Char} {rest : List Char}
    (hm : m (c :: rest) = none) : findAll m 0 (c :: rest) = findAll m 0 rest := by
  simp [findAll, hm]

/-! ### tokens joined by a separator

  The three tokenizers are used on texts of the same form: tokens, each of which its pattern matches whole
  when a separator or the end follows, joined by a separator at which no alternative of the pattern starts. -/

/-- `t₁ sep t₂ sep … tₙ`, i.e. `[sep].intercalate` (`intercalate_eq_joinWith`), by the recursion `findAll_join` follows -/
def joinWith (sep : Char) : List (List Char) → List Char
  | [] => []
  | [w] => w
  | w :: w' :: ws => w ++ sep :: joinWith sep (w' :: ws)

/-- `rest` is empty or begins with a character from `S` -/
def Stops (S : Char → Prop) (rest : List Char) : Prop := ∀ c ∈ rest.head?, S c

theorem stops_nil (S : Char → Prop) : Stops S [] := nofun
theorem stops_cons {S : Char → Prop} {c : Char} (h : S c) (r : List Char) : Stops S (c :: r) := by
  simp [Stops, h]

theorem stops_spanLen {S : Char → Prop} {p : Char → Bool} (hS : ∀ c, S c → p c = false) {rest : List Char}
    (hr : Stops S rest) : spanLen p rest = 0 := by
  cases rest with
  | nil => rfl
  | cons c r => exact spanLen_stop (hS c (hr c rfl)) r

/-- the pattern `m` matches `t`, and all of it, whenever a character from `S` or the end of the text follows -/
def Token (m : List Char → Option Nat) (S : Char → Prop) (t : List Char) : Prop :=
  t ≠ [] ∧ ∀ rest, Stops S rest → m (t ++ rest) = some t.length

theorem findAll_join {m : List Char → Option Nat} {S : Char → Prop} {sep : Char} (hsep : S sep)
    (hm : ∀ rest, m (sep :: rest) = none) :
    ∀ (toks : List (List Char)), (∀ t ∈ toks, Token m S t) →
      ∀ tail, Stops S tail → findAll m 0 (joinWith sep toks ++ tail) = toks ++ findAll m 0 tail
  | [], _, tail, _ => by simp [joinWith]
  | [t], h, tail, ht => by
    have := h t (by simp)
    simp only [joinWith]
    rw [findAll_match m this.1 tail (this.2 tail ht)]; rfl
  | t :: t' :: ts, h, tail, ht => by
    have hfirst := h t (by simp)
    have ih := findAll_join hsep hm (t' :: ts) (fun x hx => h x (by simp [hx])) tail ht
    simp only [joinWith, List.append_assoc, List.cons_append]
    rw [findAll_match m hfirst.1 _ (hfirst.2 _ (stops_cons hsep _)), findAll_nomatch m (hm _), ih]
    rfl

/-- … and when each token `pr x` is read back as `g x`, the whole text is read back as the list -/
theorem mapE_findAll_join {α β : Type} {m : List Char → Option Nat} {S : Char → Prop} {sep : Char} (hsep : S sep)
    (hm : ∀ rest, m (sep :: rest) = none) {f : List Char → R β} {pr : α → List Char} {g : α → β} {xs : List α}
    (h : ∀ x ∈ xs, Token m S (pr x) ∧ f (pr x) = .ok (g x))
    {tail : List Char} (ht : Stops S tail) (hnil : findAll m 0 tail = []) :
    mapE f (findAll m 0 (joinWith sep (xs.map pr) ++ tail)) = .ok (xs.map g) := by
  rw [findAll_join hsep hm _ (List.forall_mem_map.mpr fun x hx => (h x hx).1) tail ht,
    hnil, List.append_nil, mapE_comp]
  exact mapE_eq_map_of_ok fun x hx => (h x hx).2

theorem joinWith_cons (sep : Char) (t : List Char) (ts : List (List Char)) :
    ∃ rest, joinWith sep (t :: ts) = t ++ rest ∧ Stops (· = sep) rest := by
  cases ts with
  | nil => exact ⟨[], (List.append_nil t).symm, stops_nil _⟩
  | cons t' ts => exact ⟨_, rfl, stops_cons (S := (· = sep)) rfl _⟩

theorem mem_joinWith {sep : Char} {ws : List (List Char)} {c : Char} (hc : c ∈ joinWith sep ws) :
    c = sep ∨ ∃ w ∈ ws, c ∈ w := by
  match ws, hc with
  | [w], hc => exact .inr ⟨w, by simp, by simpa [joinWith] using hc⟩
  | w :: w' :: ws, hc =>
    simp only [joinWith, List.mem_append, List.mem_cons] at hc
    rcases hc with h | h | h
    · exact .inr ⟨w, by simp, h⟩
    · exact .inl h
    · rcases mem_joinWith h with h | ⟨x, hx, hcx⟩
      · exact .inl h
      · exact .inr ⟨x, List.mem_cons_of_mem _ hx, hcx⟩

theorem intercalate_eq_joinWith (sep : Char) : ∀ (ws : List (List Char)), [sep].intercalate ws = joinWith sep ws
  | [] => by simp [joinWith, List.intercalate]
  | [w] => by simp [joinWith, List.intercalate]
  | w :: w' :: ws => by
    have ih := intercalate_eq_joinWith sep (w' :: ws)
    simp only [List.intercalate, List.intersperse_cons_cons, List.flatten_cons] at ih ⊢
    simp [joinWith, ← ih]

/-! ## The three patterns -/

def WordStr (w : List Char) : Prop := w ≠ [] ∧ ∀ c ∈ w, isWord c = true

theorem WordStr.head {w : List Char} (hw : WordStr w) : ∃ c t, w = c :: t ∧ isWord c = true := by
  cases w with
  | nil => exact absurd rfl hw.1
  | cons c t => exact ⟨c, t, rfl, hw.2 c List.mem_cons_self⟩

theorem mWord_word {w : List Char} (hw : WordStr w) (rest : List Char) (hr : spanLen isWord rest = 0) :
    mWord (w ++ rest) = some w.length := by
  have hs : spanLen isWord (w ++ rest) = w.length := by rw [spanLen_append hw.2, hr]; rfl
  have hpos : w.length ≠ 0 := fun e => hw.1 (List.length_eq_zero_iff.mp e)
  simp [mWord, hs, hpos]

/-! ### `_FULLPATTERN`

  (its alternatives `<-` and `*` have no `Token` lemma: no law at the level of selector text speaks of such keys) -/

theorem matchFull_word {S : Char → Prop} (hS : ∀ c, S c → isWord c = false) {w : List Char} (hw : WordStr w) :
    Token matchFull S w := by
  refine ⟨hw.1, fun rest hr => ?_⟩
  have hm := mWord_word hw rest (stops_spanLen hS hr)
  obtain ⟨c, t, rfl, hc⟩ := hw.head
  have h1 : (c == '\'') = false := beq_false_of_ne (isWord_ne hc not_word_quote)
  have h2 : ¬ ('<' = c) := fun e => isWord_ne hc not_word_lt e.symm
  have h3 : ¬ ('*' = c) := fun e => isWord_ne hc not_word_star e.symm
  simp only [List.cons_append] at hm ⊢
  simp [matchFull, mQuoted, mLit, h1, h2, h3, hm, List.isPrefixOf]

/-- no alternative of `_FULLPATTERN` starts at a dot or at `=` -/
theorem matchFull_stop {c : Char} (hc : c = '.' ∨ c = '=') (rest : List Char) : matchFull (c :: rest) = none := by
  rcases hc with rfl | rfl <;> rfl

/-- `'…'` without a quote inside: the closing `'+` is greedy, so no further quote may follow -/
theorem matchFull_quoted {S : Char → Prop} (hS : ∀ c, S c → (c == '\'') = false) {k : List Char}
    (hk : ∀ c ∈ k, c ≠ '\'') : Token matchFull S ('\'' :: (k ++ ['\''])) := by
  refine ⟨nofun, fun rest hr => ?_⟩
  have hk' : ∀ c ∈ k, (c != '\'') = true := fun c hc => bne_iff_ne.mpr (hk c hc)
  have e : '\'' :: (k ++ ['\'']) ++ rest = '\'' :: (k ++ '\'' :: rest) := by simp
  rw [e]
  simp only [matchFull, mQuoted, beq_self_eq_true, if_true, spanLen_append hk']
  simp [spanLen, stops_spanLen hS hr, Nat.add_comm]

theorem mBracket_ok (o c : Char) {body : List Char} (hb : ∀ y ∈ body, y ≠ o ∧ y ≠ c) (rest : List Char) :
    mBracket o c (o :: (body ++ c :: rest)) = some (body.length + 2) := by
  have hb' : ∀ y ∈ body, (y != o && y != c) = true := by
    intro y hy; simp [hb y hy]
  have h1 : spanLen (fun y => y != o && y != c) (body ++ c :: rest) = body.length := by
    rw [spanLen_append hb']; simp [spanLen]
  simp [mBracket, h1]

theorem matchFull_lbra {S : Char → Prop} {body : List Char} (hb : ∀ y ∈ body, y ≠ '[' ∧ y ≠ ']') :
    Token matchFull S ('[' :: (body ++ [']'])) := by
  refine ⟨nofun, fun rest _ => ?_⟩
  have e1 : ('[' == '\'') = false := by decide
  simp [matchFull, mQuoted, e1, mLit, List.isPrefixOf, mWord, spanLen, not_word_lbra, mBracket_ok '[' ']' hb]

theorem matchFull_lcur {S : Char → Prop} {body : List Char} (hb : ∀ y ∈ body, y ≠ '{' ∧ y ≠ '}') :
    Token matchFull S ('{' :: (body ++ ['}'])) := by
  refine ⟨nofun, fun rest _ => ?_⟩
  have e1 : ('{' == '\'') = false := by decide
  have e2 : mBracket '[' ']' ('{' :: (body ++ '}' :: rest)) = none := by simp [mBracket]
  simp [matchFull, mQuoted, e1, mLit, List.isPrefixOf, mWord, spanLen, not_word_lcur, e2,
    mBracket_ok '{' '}' hb]

/-! ### `_ARRAYPATTERN` -/

theorem matchArray_word {S : Char → Prop} (hS : ∀ c, S c → isWord c = false) {w : List Char} (hw : WordStr w) :
    Token matchArray S w := by
  refine ⟨hw.1, fun rest hr => ?_⟩
  have hm := mWord_word hw rest (stops_spanLen hS hr)
  obtain ⟨c, t, rfl, hc⟩ := hw.head
  have h1 : (c == '(') = false := beq_false_of_ne (isWord_ne hc not_word_lpar)
  simp only [List.cons_append] at hm ⊢
  simp [matchArray, mParen, h1, hm]

/-- `(…)` without a `)` inside: the closing `)+` is greedy, so no further `)` may follow -/
theorem matchArray_paren {S : Char → Prop} (hS : ∀ c, S c → (c == ')') = false) {body : List Char}
    (hb : ∀ c ∈ body, c ≠ ')') : Token matchArray S ('(' :: (body ++ [')'])) := by
  refine ⟨nofun, fun rest hr => ?_⟩
  have hb' : ∀ c ∈ body, (c != ')') = true := fun c hc => bne_iff_ne.mpr (hb c hc)
  have e : '(' :: (body ++ [')']) ++ rest = '(' :: (body ++ ')' :: rest) := by simp
  rw [e]
  simp only [matchArray, mParen, beq_self_eq_true, if_true, spanLen_append hb']
  simp [spanLen, stops_spanLen hS hr, Nat.add_comm]

theorem matchArray_colon (rest : List Char) : matchArray (':' :: rest) = none := by
  simp [matchArray, mParen, mWord, spanLen, not_word_colon]

/-! ### `_PIPEPATTERN` -/

/-- the separators a pipe item may be followed by -/
def PipeStop (c : Char) : Prop := c = ',' ∨ c = '}'

theorem pipeStop_word (c : Char) (h : PipeStop c) : isWord c = false := by
  rcases h with rfl | rfl <;> rfl

theorem mPipeTail_stop {rest : List Char} (hr : Stops PipeStop rest) : mPipeTail rest = none := by
  cases rest with
  | nil => rfl
  | cons c r => rcases hr c rfl with rfl | rfl <;> rfl

/-- `\w+` at the head: the first alternative of `_PIPEPATTERN` needs a `|type` tail behind it, the second takes the word -/
theorem matchPipe_word {k : List Char} (hk : WordStr k) (tail : List Char) (ht : spanLen isWord tail = 0) :
    matchPipe (k ++ tail) = ((mPipeTail tail).map (k.length + ·) <|> some k.length) := by
  have hm := mWord_word hk tail ht
  obtain ⟨c, t, rfl, hc⟩ := hk.head
  have hq : (c == '\'') = false := beq_false_of_ne (isWord_ne hc not_word_quote)
  simp only [List.cons_append] at hm ⊢
  simp [matchPipe, mQuoted, hq, hm]

theorem mPipeTail_type {t : List Char} (ht : WordStr t) (rest : List Char) (hr : spanLen isWord rest = 0) :
    mPipeTail ('|' :: (t ++ rest)) = some (1 + t.length) := by
  have hs : spanLen isWord (t ++ rest) = t.length := by rw [spanLen_append ht.2, hr]; rfl
  have hpos : t.length ≠ 0 := fun e => ht.1 (List.length_eq_zero_iff.mp e)
  simp [mPipeTail, hs, hpos]

theorem matchPipe_stop (c : Char) (rest : List Char) (hc : PipeStop c ∨ c = '{') :
    matchPipe (c :: rest) = none := by
  rcases hc with (rfl | rfl) | rfl <;>
    simp [matchPipe, mQuoted, mWord, spanLen, not_word_comma, not_word_rcur, not_word_lcur]

/-! ## `ParseSelector` -/

theorem parseTok_word {w : List Char} (hw : WordStr w) : parseTok w = .ok (.key (String.ofList w)) := by
  have hq : ∀ d ∈ w, d ≠ '\'' := fun d hd => isWord_ne (hw.2 d hd) not_word_quote
  obtain ⟨c, t, rfl, hc⟩ := hw.head
  have h1 : (c == '[') = false := beq_false_of_ne (isWord_ne hc not_word_lbra)
  have h2 : (c == '{') = false := beq_false_of_ne (isWord_ne hc not_word_lcur)
  simp [parseTok, h1, h2, trimQuotes_id hq]

theorem parseTok_quoted {k : List Char} (hk : ∀ c ∈ k, c ≠ '\'') :
    parseTok ('\'' :: (k ++ ['\''])) = .ok (.key (String.ofList k)) := by
  have e : ('\'' == '[') = false := by decide
  have e2 : ('\'' == '{') = false := by decide
  simp only [parseTok, e, e2, Bool.false_eq_true, if_false, trimQuotes, trim_delims hk hk]

theorem isPrefixOf_keep_false {body : List Char} (h : ∀ c ∈ body, c ≠ '=') : kwKeep.isPrefixOf body = false :=
  Bool.eq_false_iff.mpr fun hp => h '=' ((List.isPrefixOf_iff_prefix.mp hp).subset (by decide)) rfl

/-- `[body]` without a bracket inside `body`: the trims leave `body`, which `keep=>` may lead -/
theorem parseTok_brackets {body : List Char} (hb : ∀ c ∈ body, c ≠ '[' ∧ c ≠ ']') :
    parseTok ('[' :: (body ++ [']'])) =
      (fun ds => if kwKeep.isPrefixOf body then Step.keep ds else Step.dims ds) <$>
        mapE parseDim (findAll matchArray 0 (if kwKeep.isPrefixOf body then body.drop kwKeep.length else body)) := by
  simp only [parseTok, beq_self_eq_true, if_true, trimBoth_ends (q := ' ') (a := '[') (b := ']') (by decide) (by decide),
    parseArray, trim_delims (fun c hc => (hb c hc).1) (fun c hc => (hb c hc).2)]

theorem splitFn_nil : splitFn [] = (none, []) := rfl

/-- a text that begins with a token of `_FULLPATTERN` has no `fn=>` head: a name in front of `=>` would itself be the
    first token, ended by `=`, which is neither a dot nor the start of a token -/
theorem splitFn_token {t rest : List Char} (ht : Token matchFull (· = '.') t) (hr : Stops (· = '.') rest) :
    splitFn (t ++ rest) = (none, t ++ rest) := by
  unfold splitFn
  split
  · rename_i f r hs
    refine if_neg fun hf => ?_
    have e := splitArrow_some hs
    have hm := ht.2 rest hr
    rw [e] at hm
    cases f with
    | nil => rw [List.nil_append, matchFull_stop (.inr rfl)] at hm; cases hm
    | cons c f =>
      rw [(matchFull_word (S := (· = '=')) (w := c :: f) (fun _ e => e ▸ not_word_eq) ⟨nofun, by simpa using hf⟩).2 _
        (stops_cons (S := (· = '=')) rfl _)] at hm
      have := hr '=' (by rw [(List.append_inj e (Option.some.inj hm).symm).2]; rfl)
      exact absurd this (by decide)
  · rfl

/-- step tokens joined by dots, each `pr x` read as the step `g x`: the tokens may be of any kind (bare words, quoted keys,
    bracket and brace groups), in any mixture -/
theorem parseSteps_join {α : Type} {pr : α → List Char} {g : α → Step} {xs : List α}
    (h : ∀ x ∈ xs, Token matchFull (· = '.') (pr x) ∧ parseTok (pr x) = .ok (g x)) :
    mapE parseTok (findAll matchFull 0 (joinWith '.' (xs.map pr))) = .ok (xs.map g) := by
  have := mapE_findAll_join (sep := '.') (S := (· = '.')) rfl (matchFull_stop (.inl rfl)) h (stops_nil _) (findAll_nil _ _)
  rwa [List.append_nil] at this

theorem parseSelectorL_join {α : Type} {pr : α → List Char} {g : α → Step} {xs : List α}
    (h : ∀ x ∈ xs, Token matchFull (· = '.') (pr x) ∧ parseTok (pr x) = .ok (g x)) :
    parseSelectorL (joinWith '.' (xs.map pr)) = .ok ⟨none, xs.map g⟩ := by
  have hs : splitFn (joinWith '.' (xs.map pr)) = (none, joinWith '.' (xs.map pr)) := by
    cases xs with
    | nil => exact splitFn_nil
    | cons x xs =>
      obtain ⟨rest, e, hr⟩ := joinWith_cons '.' (pr x) (xs.map pr)
      rw [List.map_cons, e]
      exact splitFn_token (h x List.mem_cons_self).1 hr
  rw [parseSelectorL, hs, parseSteps_join h]
  rfl

theorem parseSelectorL_fn {f : List Char} (hf : ∀ c ∈ f, isWord c = true) (rest : List Char) :
    parseSelectorL (f ++ '=' :: '>' :: rest) =
      Parsed.mk (some (String.ofList f)) <$> mapE parseTok (findAll matchFull 0 rest) := by
  have : f.all isWord = true := by simpa using hf
  simp [parseSelectorL, splitFn, splitArrow_fn hf, this]

/-! ## `::` and `ExecReader` -/

theorem splitCC_ne_nil : ∀ cs, splitCC cs ≠ []
  | [] => nofun
  | [c] => nofun
  | c :: d :: rest => by
    rw [splitCC]
    split
    · nofun
    · exact consHead_ne_nil _ _

theorem splitCC_cons {c : Char} (hc : c ≠ ':') (cs : List Char) :
    splitCC (c :: cs) = consHead c (splitCC cs) := by
  have hc' : (c == ':') = false := beq_false_of_ne hc
  cases cs with
  | nil => simp [splitCC, consHead]
  | cons d rest => simp [splitCC, hc']

theorem splitCC_single {cs : List Char} (h : ∀ c ∈ cs, c ≠ ':') : splitCC cs = [cs] := by
  induction cs with
  | nil => rfl
  | cons c cs ih =>
    rw [splitCC_cons (h c (by simp)), ih (fun d hd => h d (by simp [hd]))]; rfl

theorem splitCC_prefix {p : List Char} (hp : ∀ c ∈ p, c ≠ ':') (cs : List Char) :
    ∃ h t, splitCC cs = h :: t ∧ splitCC (p ++ cs) = (p ++ h) :: t := by
  induction p with
  | nil =>
    cases h : splitCC cs with
    | nil => exact absurd h (splitCC_ne_nil cs)
    | cons a b => exact ⟨a, b, rfl, by simpa using h⟩
  | cons c p ih =>
    obtain ⟨a, b, h1, h2⟩ := ih (fun d hd => hp d (by simp [hd]))
    refine ⟨a, b, h1, ?_⟩
    rw [List.cons_append, splitCC_cons (hp c (by simp)), h2]; rfl

/-- `a` must not end in a colon, or the `::` would be found one character early; where the recursion skips a `::` inside `a`,
    what is left of `a` again does not end in one (`hr`) -/
theorem splitCC_append : ∀ (a b : List Char), a.getLast? ≠ some ':' →
    splitCC (a ++ ':' :: ':' :: b) = splitCC a ++ splitCC b
  | [], b, _ => by simp [splitCC]
  | [c], b, h => by
    have hc : c ≠ ':' := by simpa using h
    have hc' : (c == ':') = false := beq_false_of_ne hc
    simp [splitCC, hc', consHead]
  | c :: d :: rest, b, h => by
    have hl : (d :: rest).getLast? ≠ some ':' := by simpa [List.getLast?_cons_cons] using h
    simp only [List.cons_append, splitCC]
    split
    · rename_i hcd
      have hr : rest.getLast? ≠ some ':' := by
        cases rest with
        | nil =>
          simp only [Bool.and_eq_true, beq_iff_eq] at hcd
          simp [hcd.2] at hl
        | cons e rest => simpa [List.getLast?_cons_cons] using hl
      rw [splitCC_append rest b hr]; simp
    · have ih := splitCC_append (d :: rest) b hl
      simp only [List.cons_append] at ih
      rw [ih]
      cases h' : splitCC (d :: rest) with
      | nil => exact absurd h' (splitCC_ne_nil _)
      | cons x y => simp [consHead]

/-- every part of `a::b` is parsed: the parts of `a`, then the parts of `b` -/
theorem parseAllL_cc (a b : List Char) (ha : a.getLast? ≠ some ':') :
    parseAllL (a ++ ':' :: ':' :: b) = (do
      let ps ← parseAllL a
      let qs ← parseAllL b
      pure (ps ++ qs)) := by
  rw [parseAllL, splitCC_append a b ha, mapE_append]; rfl

theorem runAll_append (reg : Registry N) : ∀ (ps qs : List Parsed) (d : Val N),
    runAll reg (ps ++ qs) d = runAll reg ps d >>= runAll reg qs
  | [], qs, d => rfl
  | p :: ps, qs, d => by
    simp only [List.cons_append, runAll, bind, Except.bind]
    cases readerExecutor reg p d with
    | error e => rfl
    | ok r => exact runAll_append reg ps qs r

theorem execReaderWith_of_parse (reg : Registry N) {d : Val N} {s : String} {ps : List Parsed}
    (h : parseAllL s.toList = .ok ps) : execReaderWith reg d s = runAll reg ps d := by
  rw [execReaderWith, h]; rfl

theorem execReaderWith_cc (reg : Registry N) (d : Val N) (a b : String) (ha : a.toList.getLast? ≠ some ':') :
    execReaderWith reg d (a ++ "::" ++ b) = (do
      let ps ← parseAllL a.toList
      let qs ← parseAllL b.toList
      runAll reg ps d >>= runAll reg qs) := by
  have hl : (a ++ "::" ++ b).toList = a.toList ++ ':' :: ':' :: b.toList := by
    have : "::".toList = [':', ':'] := by decide
    simp [String.toList_append, this]
  simp only [execReaderWith, hl, parseAllL_cc _ _ ha, bind_assoc, pure_bind, runAll_append]

theorem execReaderWith_single (reg : Registry N) (d : Val N) (s : String) (hs : ∀ c ∈ s.toList, c ≠ ':') :
    execReaderWith reg d s = parseSelector s >>= fun p => readerExecutor reg p d := by
  simp only [execReaderWith, parseAllL, splitCC_single hs, parseSelector, mapE, bind, Except.bind]
  cases parseSelectorL s.toList with
  | error e => rfl
  | ok p => simp only [pure, Except.pure, runAll, bind, Except.bind]; cases readerExecutor reg p d <;> rfl

/-! ### evaluating a literal text

  For the kernel `"…".toList` is an UTF-8 encoding followed by a decoding, paid per character; a literal unfolds to
  `String.ofList` of its characters for free, so the examples rewrite with these first and evaluate on the characters. -/

theorem parseSelector_ofList (cs : List Char) : parseSelector (String.ofList cs) = parseSelectorL cs := by
  rw [parseSelector, String.toList_ofList]

theorem execReaderWith_ofList (reg : Registry N) (d : Val N) (cs : List Char) :
    execReaderWith reg d (String.ofList cs) = parseAllL cs >>= fun ps => runAll reg ps d := by
  rw [execReaderWith, String.toList_ofList]

/-! ## The evaluator: what each step does on each shape -/

def isArr : Val N → Bool
  | .arr _ => true
  | _ => false

def isObj : Val N → Bool
  | .obj _ => true
  | _ => false

theorem goSlice_ok {α : Type} (xs : List α) {b e : Nat} (h : b ≤ e ∧ e ≤ xs.length) :
    goSlice xs b e = .ok ((xs.drop b).take (e - b)) :=
  if_pos h

theorem goIndex_ok {α : Type} (xs : List α) {i : Nat} (h : i < xs.length) :
    goIndex xs i = .ok xs[i] := by
  simp [goIndex, h]

theorem selDim_nil (v : Val N) : selDim [] v = .ok v := rfl

theorem selDim_each (ds : List Dim) (xs : List (Val N)) :
    selDim (.each :: ds) (.arr xs) = .arr <$> mapE (selDim ds) xs := rfl

theorem selDim_of_notArr {v : Val N} (h : isArr v = false) (d : Dim) (ds : List Dim) :
    selDim (d :: ds) v = .error .error := by
  cases v with
  | arr _ => cases h
  | _ => rfl

theorem selDim_index_in_range (i : Nat) (ds : List Dim) (xs : List (Val N)) (h : i < xs.length) :
    selDim (.idx i :: ds) (.arr xs) = selDim ds xs[i] := by
  rw [selDim, if_neg (Nat.not_le.mpr h), goIndex_ok xs h]; rfl

theorem selDim_index_out_of_range (i : Nat) (ds : List Dim) (xs : List (Val N)) (h : xs.length ≤ i) :
    selDim (.idx i :: ds) (.arr xs) = .error .error := by
  rw [selDim, if_pos h]

/-- the model's guard and `goSlice`'s are the same condition, so the panic branch disappears -/
theorem selDim_range (b e : Option Nat) (ds : List Dim) (xs : List (Val N)) :
    selDim (.range b e :: ds) (.arr xs) =
      if b.getD 0 ≤ e.getD xs.length ∧ e.getD xs.length ≤ xs.length then
        selDim ds (.arr ((xs.drop (b.getD 0)).take (e.getD xs.length - b.getD 0)))
      else .error .error := by
  rw [selDim]
  by_cases h : b.getD 0 ≤ e.getD xs.length ∧ e.getD xs.length ≤ xs.length
  · rw [if_pos h, if_neg (by omega), goSlice_ok xs h]; rfl
  · rw [if_neg h, if_pos (by omega)]

theorem keepStep_arr (ds : List Dim) (cont : Val N → R (Val N)) (xs : List (Val N)) :
    keepStep ds cont (.arr xs) = selDim ds (.arr xs) >>= cont := rfl

theorem pipeStep_obj (ps : List (String × String)) (cont : Val N → R (Val N)) (fs : Row N) :
    pipeStep ps cont (.obj fs) = pipeObj fs ps [] >>= fun c => cont (.obj c) := rfl

theorem pipeStepList_eq_mapE (ps : List (String × String)) (cont : Val N → R (Val N)) :
    ∀ xs, pipeStepList ps cont xs = mapE (pipeStep ps cont) xs
  | [] => rfl
  | x :: xs => by rw [pipeStepList, mapE, pipeStepList_eq_mapE ps cont xs]

theorem pipeStep_arr (ps : List (String × String)) (cont : Val N → R (Val N)) (xs : List (Val N)) :
    pipeStep ps cont (.arr xs) = .arr <$> mapE (pipeStep ps cont) xs := by
  rw [pipeStep, pipeStepList_eq_mapE]
  cases mapE (pipeStep ps cont) xs <;> rfl

theorem evalSteps_null : ∀ steps : List Step, evalSteps steps (.null : Val N) = .ok .null
  | [] => rfl
  | st :: _ => by cases st <;> rfl

theorem flattenKept_zero (v : Val N) : flattenKept 0 v = v := by
  cases v <;> rfl

/-- the `[…]` step on an array: `SelectDimension`, then `Unwind` by one level less than there are dimensions -/
theorem dims_arr (ds : List Dim) (rest : List Step) (xs : List (Val N)) :
    evalSteps (.dims ds :: rest) (.arr xs) =
      selDim ds (.arr xs) >>= fun kept => evalSteps rest (flattenKept ((ds.length : Int) - 1) kept) := by
  simp only [evalSteps, dimsStep, selMany]
  cases selDim ds (.arr xs) <;> rfl

/-- with a single dimension nothing is flattened -/
theorem dims_one (d : Dim) (rest : List Step) (xs : List (Val N)) :
    evalSteps (.dims [d] :: rest) (.arr xs) = selDim [d] (.arr xs) >>= evalSteps rest := by
  rw [dims_arr]
  exact congrArg _ (funext fun kept => congrArg _ (flattenKept_zero kept))

theorem selDim_error_steps {ds : List Dim} {xs : List (Val N)} {e : Err} (h : selDim ds (.arr xs) = .error e)
    (rest : List Step) :
    evalSteps (.dims ds :: rest) (.arr xs) = .error e ∧ evalSteps (.keep ds :: rest) (.arr xs) = .error e := by
  simp only [evalSteps, dimsStep, keepStep, selMany, h]
  exact ⟨rfl, rfl⟩

/-! ## `Unwind`, `Mix` -/

theorem unwindItems_eq_flatMap (d : Int) : ∀ xs : List (Val N), unwindItems d xs = xs.flatMap (unwindItem d)
  | [] => rfl
  | x :: xs => by rw [unwindItems, unwindItems_eq_flatMap d xs, List.flatMap_cons]

theorem unwindItem_arr (d : Int) (ys : List (Val N)) : unwindItem d (.arr ys) = unwind d ys := by
  simp [unwindItem, unwind]

theorem unwindItem_notArr (d : Int) {v : Val N} (h : ∀ ys, v ≠ .arr ys) : unwindItem d v = [v] := by
  cases v with
  | arr ys => exact absurd rfl (h ys)
  | _ => rfl

theorem mixItems_eq_flatMap : ∀ xs : List (Val N), mixItems xs = xs.flatMap mixItem
  | [] => rfl
  | x :: xs => by rw [mixItems, mixItems_eq_flatMap xs, List.flatMap_cons]

theorem mixItem_of_notArr {v : Val N} (h : isArr v = false) : mixItem v = [v] := by
  cases v with
  | arr _ => cases h
  | _ => rfl

theorem mixItem_notArr (v : Val N) : ∀ y ∈ mixItem v, isArr y = false := by
  induction v using valInduct with
  | harr xs ih =>
    intro y hy
    rw [mixItem, mixItems_eq_flatMap] at hy
    obtain ⟨x, hx, hyx⟩ := List.mem_flatMap.mp hy
    exact ih x hx y hyx
  | _ => exact fun y hy => List.mem_singleton.mp hy ▸ rfl

theorem mixItems_notArr (xs : List (Val N)) : ∀ y ∈ mixItems xs, isArr y = false := by
  have := mixItem_notArr (.arr xs)
  rwa [mixItem] at this

theorem mixItems_of_flat : ∀ {ys : List (Val N)}, (∀ y ∈ ys, isArr y = false) → mixItems ys = ys
  | [], _ => rfl
  | y :: ys, h => by
    rw [mixItems, mixItem_of_notArr (h y List.mem_cons_self),
      mixItems_of_flat fun z hz => h z (List.mem_cons_of_mem _ hz)]
    rfl

theorem mixFields_eq_flatMap : ∀ fs : List (String × Val N),
    mixFields fs = fs.flatMap fun p => mixField p.1 p.2
  | [] => rfl
  | (k, v) :: fs => by rw [mixFields, mixFields_eq_flatMap fs, List.flatMap_cons]

theorem mixField_of_notObj (k : String) {v : Val N} (h : isObj v = false) : mixField k v = [(k, v)] := by
  cases v with
  | obj _ => cases h
  | _ => rfl

theorem mixField_notObj (v : Val N) : ∀ (k : String), ∀ p ∈ mixField k v, isObj p.2 = false := by
  induction v using valInduct with
  | hobj fs ih =>
    intro k p hp
    rw [mixField, mixFields_eq_flatMap] at hp
    obtain ⟨q, hq, rfl⟩ := List.mem_map.mp hp
    obtain ⟨f, hf, hqf⟩ := List.mem_flatMap.mp hq
    exact ih f hf f.1 q hqf
  | _ => exact fun k p hp => List.mem_singleton.mp hp ▸ rfl

theorem mixFields_notObj (fs : List (String × Val N)) : ∀ p ∈ mixFields fs, isObj p.2 = false := by
  intro p hp
  rw [mixFields_eq_flatMap] at hp
  obtain ⟨f, _, hpf⟩ := List.mem_flatMap.mp hp
  exact mixField_notObj f.2 f.1 p hpf

theorem mixFields_of_flat : ∀ {fs : List (String × Val N)}, (∀ p ∈ fs, isObj p.2 = false) → mixFields fs = fs
  | [], _ => rfl
  | (k, v) :: fs, h => by
    rw [mixFields, mixField_of_notObj k (h (k, v) List.mem_cons_self),
      mixFields_of_flat fun z hz => h z (List.mem_cons_of_mem _ hz)]
    rfl

theorem mix_ok {v w : Val N} (h : mix v = .ok w) :
    (∃ xs, v = .arr xs ∧ w = .arr (mixItems xs)) ∨
    (∃ fs, v = .obj fs ∧ dupKeys (mixFields fs) = false ∧ w = .obj (mixFields fs)) := by
  cases v with
  | arr xs => cases h; exact .inl ⟨xs, rfl, rfl⟩
  | obj fs =>
    rw [mix] at h
    split at h
    · cases h
    · cases h; exact .inr ⟨fs, rfl, Bool.eq_false_iff.mpr ‹_›, rfl⟩
  | _ => cases h

/-! ## The pipe loop -/

theorem hasKey_append {α : Type} (k : String) : ∀ (xs ys : List (String × α)),
    hasKey k (xs ++ ys) = (hasKey k xs || hasKey k ys)
  | [], ys => by simp [hasKey]
  | x :: xs, ys => by simp [hasKey, hasKey_append k xs ys, Bool.or_assoc]

theorem setKey_new {α : Type} {k : String} (v : α) : ∀ {acc : List (String × α)},
    hasKey k acc = false → setKey k v acc = acc ++ [(k, v)]
  | [], _ => by simp [setKey]
  | (k', v') :: acc, h => by
    simp only [hasKey, Bool.or_eq_false_iff, beq_eq_false_iff_ne] at h
    simp [setKey, h.1, setKey_new v h.2]

/-- one pipe selector: the pair it contributes to the new object -/
def pipePair (fs : Row N) (p : String × String) : R (String × Val N) :=
  (fun v => (p.1, v)) <$> pipeConv p.2 (Val.get fs p.1)

/-- the loop invariant: the keys still to come are absent from `acc`, so every `setKey` appends -/
theorem pipeObj_eq_mapE (fs : Row N) : ∀ (ps : List (String × String)) (acc : Row N),
    (ps.map (·.1)).Nodup → (∀ p ∈ ps, hasKey p.1 acc = false) →
    pipeObj fs ps acc = (acc ++ ·) <$> mapE (pipePair fs) ps
  | [], acc, _, _ => by rw [pipeObj, mapE, map_ok, List.append_nil]
  | p :: ps, acc, hnd, hacc => by
    rw [List.map_cons, List.nodup_cons] at hnd
    rw [pipeObj, mapE, pipePair]
    cases pipeConv p.2 (Val.get fs p.1) with
    | error e => rfl
    | ok v =>
      have hacc' : ∀ q ∈ ps, hasKey q.1 (acc ++ [(p.1, v)]) = false := fun q hq => by
        have hne : p.1 ≠ q.1 := fun e => hnd.1 (e ▸ List.mem_map_of_mem hq)
        simp [hasKey_append, hacc q (List.mem_cons_of_mem _ hq), hasKey, hne]
      rw [C19.ok_bind, map_ok, C19.ok_bind, setKey_new v (hacc p List.mem_cons_self),
        pipeObj_eq_mapE fs ps _ hnd.2 hacc']
      cases mapE (pipePair fs) ps with
      | error e => rfl
      | ok c => exact congrArg Except.ok (List.append_assoc ..)

/-! ## Never a panic

  `NoPanic` is closed under `>>=`, `<$>`, `mapE` and `if`; every function of the model is built from these
  over leaves that are `.ok _`, `.error .error` or `.error .oom` (`nofun`), except for the five `.error .panic`
  branches, each of which sits behind a guard that excludes it. -/

def NoPanic {α : Type} (r : R α) : Prop := r ≠ .error .panic

theorem noPanic_cast {α β : Type} {e : Err} (h : NoPanic (.error e : R α)) : NoPanic (.error e : R β) :=
  fun h' => h (by cases h'; rfl)

theorem noPanic_bind {α β : Type} {r : R α} {f : α → R β} (hr : NoPanic r) (hf : ∀ a, r = .ok a → NoPanic (f a)) :
    NoPanic (r >>= f) := by
  cases r with
  | ok a => exact hf a rfl
  | error e => exact noPanic_cast hr

theorem noPanic_map {α β : Type} {r : R α} {f : α → β} (hr : NoPanic r) : NoPanic (f <$> r) := by
  cases r with
  | ok a => nofun
  | error e => exact noPanic_cast hr

theorem noPanic_ite {α : Type} {c : Prop} [Decidable c] {a b : R α} (ha : NoPanic a) (hb : NoPanic b) :
    NoPanic (if c then a else b) := by
  split <;> assumption

theorem mapE_noPanic {α β : Type} {f : α → R β} :
    ∀ {xs : List α}, (∀ x ∈ xs, NoPanic (f x)) → NoPanic (mapE f xs)
  | [], _ => nofun
  | x :: _, h =>
    noPanic_bind (h x List.mem_cons_self) fun _ _ =>
      noPanic_bind (mapE_noPanic fun y hy => h y (List.mem_cons_of_mem _ hy)) fun _ _ => nofun

/-! ### parsing -/

theorem readIndex_noPanic (cs : List Char) : NoPanic (readIndex cs) := by
  unfold readIndex
  refine noPanic_ite nofun ?_
  split
  · nofun
  · exact noPanic_ite (noPanic_ite nofun nofun) (noPanic_ite nofun nofun)

theorem readBound_noPanic (kw cs : List Char) : NoPanic (readBound kw cs) :=
  noPanic_ite nofun (noPanic_map (readIndex_noPanic cs))

theorem readRange_noPanic (m : List Char) : NoPanic (readRange m) := by
  unfold readRange
  simp only
  split
  · exact noPanic_bind (readBound_noPanic _ _) fun a _ => noPanic_bind (readBound_noPanic _ _) fun b _ => nofun
  · nofun

theorem parseDim_noPanic {m : List Char} (hm : m ≠ []) : NoPanic (parseDim m) := by
  unfold parseDim
  split
  · exact absurd rfl hm
  · exact noPanic_ite (readRange_noPanic _) (noPanic_ite nofun (noPanic_map (readIndex_noPanic _)))

theorem parseArray_noPanic (m : List Char) : NoPanic (parseArray m) :=
  noPanic_map (mapE_noPanic fun x hx => parseDim_noPanic (findAll_ne_nil _ _ _ x hx))

theorem parsePipeItem_noPanic (m : List Char) : NoPanic (parsePipeItem m) := by
  unfold parsePipeItem
  split
  · rename_i h; exact absurd h (splitChar_ne_nil _ _)
  all_goals nofun

theorem parsePipe_noPanic (m : List Char) : NoPanic (parsePipe m) :=
  noPanic_map (mapE_noPanic fun x _ => parsePipeItem_noPanic x)

theorem parseTok_noPanic {m : List Char} (hm : m ≠ []) : NoPanic (parseTok m) := by
  unfold parseTok
  split
  · exact absurd rfl hm
  · exact noPanic_ite (parseArray_noPanic _) (noPanic_ite (parsePipe_noPanic _) nofun)

theorem parseSelectorL_noPanic (s : List Char) : NoPanic (parseSelectorL s) :=
  noPanic_map (mapE_noPanic fun x hx => parseTok_noPanic (findAll_ne_nil _ _ _ x hx))

theorem parseAllL_noPanic (s : List Char) : NoPanic (parseAllL s) :=
  mapE_noPanic fun x _ => parseSelectorL_noPanic x

/-! ### evaluation -/

theorem selDim_noPanic : ∀ (ds : List Dim) (v : Val N), NoPanic (selDim ds v)
  | [], v => nofun
  | d :: ds, v => by
    have ih := selDim_noPanic ds
    cases v with
    | arr xs =>
      cases d with
      | idx i =>
        by_cases h : i < xs.length
        · rw [selDim_index_in_range i ds xs h]; exact ih _
        · rw [selDim_index_out_of_range i ds xs (Nat.le_of_not_lt h)]; nofun
      | each =>
        rw [selDim_each]
        exact noPanic_map (mapE_noPanic fun x _ => ih x)
      | range b e =>
        rw [selDim_range]
        exact noPanic_ite (ih _) nofun
    | _ => nofun

theorem selMany_noPanic (xs : List (Val N)) (ds : List Dim) : NoPanic (selMany xs ds) :=
  noPanic_map (selDim_noPanic ds _)

theorem keyStep_noPanic {k : String} {cont : Val N → R (Val N)} (hc : ∀ v, NoPanic (cont v)) (v : Val N) :
    NoPanic (keyStep k cont v) := by
  induction v using valInduct with
  | harr xs ih => rw [keyStep_arr]; exact noPanic_map (mapE_noPanic ih)
  | hobj fs _ => exact hc _
  | _ => nofun

theorem dimsStep_noPanic {ds : List Dim} {cont : Val N → R (Val N)} (hc : ∀ v, NoPanic (cont v)) (v : Val N) :
    NoPanic (dimsStep ds cont v) := by
  cases v with
  | arr xs => exact noPanic_bind (selMany_noPanic _ _) fun a _ => hc a
  | _ => nofun

theorem keepStep_noPanic {ds : List Dim} {cont : Val N → R (Val N)} (hc : ∀ v, NoPanic (cont v)) (v : Val N) :
    NoPanic (keepStep ds cont v) := by
  cases v with
  | arr xs => exact noPanic_bind (selDim_noPanic _ _) fun a _ => hc a
  | _ => nofun

theorem pipeString_noPanic (v : Val N) : NoPanic (pipeString v) := by
  unfold pipeString
  repeat' split
  all_goals nofun

theorem parseFloatModel_noPanic (cs : List Char) : NoPanic (parseFloatModel cs : R (Val N)) := by
  unfold parseFloatModel
  refine noPanic_ite (noPanic_ite nofun nofun) (noPanic_ite nofun ?_)
  split
  · nofun
  · exact noPanic_ite (noPanic_ite nofun nofun) nofun

theorem pipeNumber_noPanic (v : Val N) : NoPanic (pipeNumber v) := by
  unfold pipeNumber
  split
  · exact parseFloatModel_noPanic _
  · nofun

theorem pipeConv_noPanic (ty : String) (v : Val N) : NoPanic (pipeConv ty v) :=
  noPanic_ite nofun (noPanic_ite (pipeString_noPanic v) (noPanic_ite (pipeNumber_noPanic v) nofun))

theorem pipeObj_noPanic (fs : Row N) : ∀ ps acc, NoPanic (pipeObj fs ps acc)
  | [], _ => nofun
  | _ :: ps, _ => noPanic_bind (pipeConv_noPanic _ _) fun _ _ => pipeObj_noPanic fs ps _

theorem pipeStep_noPanic {ps : List (String × String)} {cont : Val N → R (Val N)}
    (hc : ∀ v, NoPanic (cont v)) (v : Val N) : NoPanic (pipeStep ps cont v) := by
  induction v using valInduct with
  | harr xs ih => rw [pipeStep_arr]; exact noPanic_map (mapE_noPanic ih)
  | hobj fs _ => exact noPanic_bind (pipeObj_noPanic _ _ _) fun c _ => hc _
  | _ => nofun

theorem evalSteps_noPanic : ∀ (steps : List Step) (v : Val N), NoPanic (evalSteps steps v)
  | [], _ => nofun
  | .key _ :: rest, v => keyStep_noPanic (evalSteps_noPanic rest) v
  | .dims _ :: rest, v => dimsStep_noPanic (evalSteps_noPanic rest) v
  | .keep _ :: rest, v => keepStep_noPanic (evalSteps_noPanic rest) v
  | .pipe _ :: rest, v => pipeStep_noPanic (evalSteps_noPanic rest) v

theorem mix_noPanic (v : Val N) : NoPanic (mix v) := by
  unfold mix
  split
  · nofun
  · exact noPanic_ite nofun nofun
  · nofun

theorem distinctGo_noPanic : ∀ (xs : List (Val N)) seen, NoPanic (distinctGo xs seen)
  | [], _ => nofun
  | x :: xs, seen => by
    rw [distinctGo]
    split
    · nofun
    · exact noPanic_ite (distinctGo_noPanic xs _) (noPanic_map (distinctGo_noPanic xs _))

theorem distinct_noPanic (v : Val N) : NoPanic (distinct v) := by
  unfold distinct
  split
  · exact noPanic_map (distinctGo_noPanic _ _)
  · nofun

/-- a registry none of whose functions panics (true of every function written in safe Go that
    recovers its own panics, and of the two built-in ones) -/
def SafeRegistry (reg : Registry N) : Prop := ∀ f g, reg f = some g → ∀ v, NoPanic (g v)

theorem builtins_safe : SafeRegistry (builtins : Registry N) := by
  intro f g h v
  unfold builtins at h
  split at h
  · cases h; exact mix_noPanic v
  · split at h
    · cases h; exact distinct_noPanic v
    · cases h

theorem readerExecutor_noPanic {reg : Registry N} (hr : SafeRegistry reg) (p : Parsed) (d : Val N) :
    NoPanic (readerExecutor reg p d) := by
  unfold readerExecutor
  split
  · exact evalSteps_noPanic _ _
  · refine noPanic_bind (evalSteps_noPanic _ _) fun rs _ => ?_
    split
    · rename_i g hg; exact hr _ g hg rs
    · nofun

theorem runAll_noPanic {reg : Registry N} (hr : SafeRegistry reg) :
    ∀ (ps : List Parsed) (d : Val N), NoPanic (runAll reg ps d)
  | [], _ => nofun
  | p :: ps, d => noPanic_bind (readerExecutor_noPanic hr p d) fun rs _ => runAll_noPanic hr ps rs

theorem execReaderWith_noPanic {reg : Registry N} (hr : SafeRegistry reg) (d : Val N) (s : String) :
    NoPanic (execReaderWith reg d s) :=
  noPanic_bind (parseAllL_noPanic _) fun ps _ => runAll_noPanic hr ps d

end Genql.Sel

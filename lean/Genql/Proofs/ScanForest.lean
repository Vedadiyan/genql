/-
  Genql.Proofs.ScanForest — a grammar of bracket forests with quoted/unquoted leaves, and how the
  lexer of `FindArrayIndex` sees their renderings.
-/
import Genql.Proofs.ScanArr

namespace Genql.Scan

/-- one unit inside a quoted segment (as `FindArrayIndex` reads it: a backslash hides the next byte) -/
inductive QItem
  | ch (c : UInt8)     -- any byte except the segment's own quote and `\` (so `[`, `]`, other quotes are allowed)
  | esc (d : UInt8)    -- `\d`, any `d`
  deriving Repr

def QItem.ok (q : UInt8) : QItem → Bool
  | .ch c => c ≠ q ∧ c ≠ bBs
  | .esc _ => true

def QItem.render : QItem → List UInt8
  | .ch c => [c]
  | .esc d => [bBs, d]

inductive Leaf
  | raw (c : UInt8)                        -- a byte outside quotes: no quote, backslash or bracket
  | esc (d : UInt8)                        -- `\d` outside quotes (the byte after a backslash is skipped)
  | quoted (q : UInt8) (body : List QItem) -- `q…q` with `q` one of `'`, `"`, `` ` ``
  deriving Repr

def Leaf.ok : Leaf → Bool
  | .raw c => c ≠ bSq ∧ c ≠ bDq ∧ c ≠ bBt ∧ c ≠ bBs ∧ c ≠ bLb ∧ c ≠ bRb
  | .esc _ => true
  | .quoted q body => (q = bSq ∨ q = bDq ∨ q = bBt) ∧ body.all (QItem.ok q)

def Leaf.render : Leaf → List UInt8
  | .raw c => [c]
  | .esc d => [bBs, d]
  | .quoted q body => q :: (body.flatMap QItem.render ++ [q])

/-- `S → ε | leaf S | [ S ] S` -/
inductive Forest
  | nil
  | leaf (l : Leaf) (rest : Forest)
  | arr (inner rest : Forest)
  deriving Repr

def Forest.ok : Forest → Bool
  | .nil => true
  | .leaf l rest => l.ok && rest.ok
  | .arr inner rest => inner.ok && rest.ok

/-- `arrayStyle = false`: idiomatic `[…]`; `true`: `ARRAY(…)` -/
def Forest.render (arrayStyle : Bool) : Forest → List UInt8
  | .nil => []
  | .leaf l rest => l.render ++ rest.render arrayStyle
  | .arr inner rest =>
    (if arrayStyle then tokARRAY ++ [bLp] else [bLb]) ++ inner.render arrayStyle ++
    (if arrayStyle then [bRp] else [bRb]) ++ rest.render arrayStyle

def Forest.kinds : Forest → List Kind
  | .nil => []
  | .leaf l rest => List.replicate l.render.length .other ++ rest.kinds
  | .arr inner rest => .lb :: (inner.kinds ++ .rb :: rest.kinds)

theorem lexStep_in_quote (q c : UInt8) (h1 : c ≠ q) (h2 : c ≠ bBs) :
    lexStep false (some q) c = (false, some q, .other) := by
  simp only [lexStep, Bool.false_eq_true, if_false, h2, Ne.symm h1, ite_self]

theorem lexStep_close (q : UInt8) (hq : q = bSq ∨ q = bDq ∨ q = bBt) :
    lexStep false (some q) q = (false, none, .other) := by
  rcases hq with rfl | rfl | rfl <;> rfl

theorem lexStep_open (q : UInt8) (hq : q = bSq ∨ q = bDq ∨ q = bBt) :
    lexStep false none q = (false, some q, .other) := by
  rcases hq with rfl | rfl | rfl <;> rfl

theorem lexStep_bs (hold : Option UInt8) : lexStep false hold bBs = (true, hold, .other) := rfl

theorem lexStep_skip (hold : Option UInt8) (c : UInt8) : lexStep true hold c = (false, hold, .other) := rfl

theorem lexStep_lb : lexStep false none bLb = (false, none, .lb) := rfl

theorem lexStep_rb : lexStep false none bRb = (false, none, .rb) := rfl

theorem lexStep_plain (c : UInt8) (h : c ≠ bSq ∧ c ≠ bDq ∧ c ≠ bBt ∧ c ≠ bBs ∧ c ≠ bLb ∧ c ≠ bRb) :
    lexStep false none c = (false, none, .other) := by
  simp [lexStep, h]

theorem kinds_qbody (q : UInt8) (body : List QItem) (tail : List UInt8)
    (h : body.all (QItem.ok q) = true) :
    kinds false (some q) (body.flatMap QItem.render ++ tail)
      = List.replicate (body.flatMap QItem.render).length .other ++ kinds false (some q) tail := by
  induction body with
  | nil => rfl
  | cons it its ih =>
    simp only [List.all_cons, Bool.and_eq_true] at h
    cases it with
    | ch c =>
      have hc := h.1
      simp only [QItem.ok, Bool.decide_and, Bool.and_eq_true, decide_eq_true_eq] at hc
      simp only [List.flatMap_cons, QItem.render, List.cons_append, List.nil_append, List.length_cons,
        List.replicate_succ, kinds, lexStep_in_quote q c hc.1 hc.2, ih h.2]
    | esc d =>
      simp only [List.flatMap_cons, QItem.render, List.cons_append, List.nil_append, List.length_cons,
        List.replicate_succ, kinds, lexStep_bs, lexStep_skip, ih h.2]

theorem kinds_leaf (l : Leaf) (tail : List UInt8) (h : l.ok = true) :
    kinds false none (l.render ++ tail)
      = List.replicate l.render.length .other ++ kinds false none tail := by
  cases l with
  | raw c =>
    simp only [Leaf.ok, Bool.decide_and, Bool.and_eq_true, decide_eq_true_eq] at h
    simp [Leaf.render, kinds, lexStep_plain c h]
  | esc d => simp [Leaf.render, kinds, lexStep_bs, lexStep_skip, List.replicate_succ]
  | quoted q body =>
    simp only [Leaf.ok, decide_eq_true_eq] at h
    simp only [Leaf.render, List.cons_append, List.append_assoc, List.nil_append, List.length_cons,
      List.length_append, List.length_nil, kinds, lexStep_open q h.1, kinds_qbody q body _ h.2,
      lexStep_close q h.1]
    rw [List.replicate_succ, List.replicate_succ']
    simp

theorem kinds_forest (t : Forest) (tail : List UInt8) (h : t.ok = true) :
    kinds false none (t.render false ++ tail) = t.kinds ++ kinds false none tail := by
  induction t generalizing tail with
  | nil => rfl
  | leaf l rest ih =>
    simp only [Forest.ok, Bool.and_eq_true] at h
    simp only [Forest.render, Forest.kinds, List.append_assoc, kinds_leaf l _ h.1, ih _ h.2]
  | arr inner rest ih1 ih2 =>
    simp only [Forest.ok, Bool.and_eq_true] at h
    simp only [Forest.render, Forest.kinds, Bool.false_eq_true, if_false, List.append_assoc,
      List.cons_append, List.nil_append, kinds, lexStep_lb, ih1 _ h.1, lexStep_rb, ih2 _ h.2]

theorem Forest.kinds_length (t : Forest) : t.kinds.length = (t.render false).length := by
  induction t with
  | nil => rfl
  | leaf l rest ih => simp [Forest.kinds, Forest.render, ih]
  | arr inner rest ih1 ih2 => simp [Forest.kinds, Forest.render, ih1, ih2]

theorem depthAfter_replicate (n d : Nat) (K : List Kind) :
    depthAfter d (List.replicate n .other ++ K) = depthAfter d K := by
  induction n with
  | zero => rfl
  | succ n ih => simpa only [List.replicate_succ, List.cons_append, depthAfter] using ih

theorem depthAfter_forest (t : Forest) (d : Nat) (K : List Kind) :
    depthAfter d (t.kinds ++ K) = depthAfter d K := by
  induction t generalizing d K with
  | nil => rfl
  | leaf l rest ih => simp only [Forest.kinds, List.append_assoc, depthAfter_replicate, ih]
  | arr inner rest ih1 ih2 =>
    simp only [Forest.kinds, List.cons_append, List.append_assoc, depthAfter, ih1, ih2]

theorem rewriteK_replicate (Y X : List UInt8) (K : List Kind) :
    rewriteK (List.replicate Y.length .other ++ K) (Y ++ X) = Y ++ rewriteK K X := by
  induction Y with
  | nil => rfl
  | cons y Y ih =>
    simp only [List.length_cons, List.replicate_succ, List.cons_append, rewriteK, ih, List.nil_append]

theorem rewriteK_forest (t : Forest) (K : List Kind) (X : List UInt8) :
    rewriteK (t.kinds ++ K) (t.render false ++ X) = t.render true ++ rewriteK K X := by
  induction t generalizing K X with
  | nil => rfl
  | leaf l rest ih =>
    simp only [Forest.kinds, Forest.render, List.append_assoc, rewriteK_replicate, ih]
  | arr inner rest ih1 ih2 =>
    simp only [Forest.kinds, Forest.render, Bool.false_eq_true, if_false, if_true,
      List.cons_append, List.append_assoc, List.nil_append, rewriteK, ih1, ih2]

end Genql.Scan

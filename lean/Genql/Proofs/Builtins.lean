/-
  Genql.Proofs.Builtins — `callBody` is one `match` with 30 alternatives (name, argument shape); unfolding it with `simp`
  walks the whole name dispatch again in every proof, so the equations that several proofs use are stated here once, by
  `rfl` (the dispatch is evaluated on the literal name; the arguments stay variables).

  The equations hold for every `concatNilText`, `star`, `fromLen` (`b star n` below).  The statements of C03, C12 and C18
  are their instances at `false`, `none` (`C03.count_spec`: `some ms`), `0`, while `evalExpr` calls with
  `env.dfx.concatNilText`, `starOf cur`, `ctx.fromLen`: to use one of those statements under `evalExpr`, go back to the
  equation here.
-/
import Genql.Model.Builtins
namespace Genql
variable {N : Type} [Num N]

theorem fmtR_of_fmtV {x : Val N} {s : String} (h : fmtV x = some s) : fmtR x = .ok s := by
  simp [fmtR, h]

theorem concatVals_null (xs : List (Val N)) : concatVals false (.null :: xs) = concatVals false xs := by
  rw [concatVals]
  cases concatVals false xs <;> rfl

theorem concatVals_cons {x : Val N} (hx : x.isNull = false) (nilText : Bool) (xs : List (Val N)) :
    concatVals nilText (x :: xs) = (do
      let s ← fmtR x
      let rest ← concatVals nilText xs
      pure (s ++ rest)) := by
  cases x with
  | null => cases hx
  | _ => rfl

section
variable {b : Bool} {star : Option (List (Val N))} {n : Nat}

/-- after a passed `Guard` the call is the body -/
theorem callBuiltin_guarded {name : String} {args : List (Val N)} (h : arityOf name = some args.length) :
    callBuiltin b name star n args = callBody b name star n args := by
  simp [callBuiltin, h]

/-- variadic functions have no `Guard` -/
theorem callBuiltin_unguarded {name : String} (h : arityOf name = none) {args : List (Val N)} :
    callBuiltin b name star n args = callBody b name star n args := by
  simp [callBuiltin, h]

-- The side condition of the two lemmas above, for the names that more than one proof calls; at a single use
-- `rfl` evaluates the table as well.

theorem arityOf_count : arityOf "count" = none := by decide +kernel
theorem arityOf_array : arityOf "array" = none := by decide +kernel
theorem arityOf_daterange : arityOf "daterange" = some 2 := by decide +kernel
theorem arityOf_changetype : arityOf "changetype" = some 2 := by decide +kernel

theorem callBody_sum (a : Val N) :
    callBody b "sum" star n [a] = (do
      let xs ← asSlice a
      let r ← sumLoop xs none
      pure (.v (optNum r))) := rfl

theorem callBody_avg (a : Val N) :
    callBody b "avg" star n [a] = (do
      let xs ← asSlice a
      let r ← sumLoop xs none
      pure (.v (match r with
        | some s => .num (Num.div s (Num.ofInt xs.length))
        | none => .null))) := rfl

theorem callBody_min (a : Val N) :
    callBody b "min" star n [a] = (do
      let xs ← asSlice a
      let r ← minLoop (fun n m => Num.lt n m) xs none
      pure (.v (optNum r))) := rfl

theorem callBody_max (a : Val N) :
    callBody b "max" star n [a] = (do
      let xs ← asSlice a
      let r ← minLoop (fun n m => Num.lt m n) xs none
      pure (.v (optNum r))) := rfl

theorem callBody_count_star :
    callBody b "count" star n [] = .ok (.v (.num (Num.ofInt (match star with | some xs => xs.length | none => n)))) := by
  cases star <;> rfl

theorem callBody_count_col (a : Val N) (rest : List (Val N)) :
    callBody b "count" star n (a :: rest) = (do
      let xs ← asSlice a
      pure (.v (.num (Num.ofInt xs.length)))) := rfl

theorem callBody_array (xs : List (Val N)) : callBody b "array" star n xs = .ok (.v (.arr xs)) := rfl

/-- ELEMENTAT on an array and a number, `Guard` included -/
theorem callBuiltin_elementat (xs : List (Val N)) (i : N) :
    callBuiltin b "elementat" star n [.arr xs, .num i] =
      (match Num.toInt? i with
       | some k => if k < 0 then .error .error else
          match xs[k.toNat]? with
          | some x => .ok (.v x)
          | none => .error .error
       | none => .error .oom) := rfl

/-- one bound of DATERANGE: NULL is the empty text, anything else its `%v` text -/
def dateBound : Val N → R String
  | .null => pure ""
  | x => fmtR x

theorem callBody_daterange (f t : Val N) :
    callBody b "daterange" star n [f, t] = (do
      let fs ← dateBound f
      let ts ← dateBound t
      pure (.v (.arr [.str fs, .str ts]))) := rfl

theorem dateBound_of_fmtV {x : Val N} {s : String} (h : fmtV x = some s) (hn : x.isNull = false) :
    dateBound x = .ok s := by
  cases x with
  | null => cases hn
  | _ => exact fmtR_of_fmtV h

/-- CHANGETYPE of a non-NULL value to an array, under any spelling of the type name (it is lower-cased first) -/
theorem callBody_changetype_array {x : Val N} (hx : x.isNull = false) {ty : String} (ht : lowerStr ty = "array") :
    callBody b "changetype" star n [x, .str ty] = .ok (.v (.arr [x])) := by
  -- the name dispatch is evaluated once, before `x` is split (`rfl` in each of the cases would walk it again);
  -- what is left is the body's `match x, .str ty with …`
  conv => lhs; whnf
  cases x with
  | null => cases hx
  | _ => simp only [ht]

theorem callBody_changetype_string {x : Val N} (hx : x.isNull = false) {ty : String} (ht : lowerStr ty = "string") :
    callBody b "changetype" star n [x, .str ty] = fmtR x >>= fun s => pure (.v (.str s)) := by
  conv => lhs; whnf
  cases x with
  | null => cases hx
  | _ => simp only [ht]

end
end Genql

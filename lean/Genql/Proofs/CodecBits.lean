/-
  The model (Genql.Model.Codec) writes Go's bit manipulation with `Nat` arithmetic (`*`, `/`, `%`,
  `+`).  Every quantity in it is a bit field `fld x k m` of some number; the first part gives the
  few laws by which fields are shifted, truncated and concatenated, and the model's three
  arithmetic definitions written with powers of two (used by the round trips in
  Genql.Proofs.Codec).  The other two parts prove, for the operand ranges that actually occur
  (bytes `< 256`, alphabet indices `< 64` / `< 32`), that the model's formulas are the literal Go
  expressions written with `<<<`, `>>>`, `&&&`, `|||` (and `% 256`, `% 2^32` for the truncation of
  `uint8` / `uint32` shifts).  They are stated for full quanta; a shorter final block is a prefix,
  by evaluation (`b32Loop_tail`, `b64uLoop_enc`).
-/
import Genql.Model.Codec
namespace Genql.Codec.Bits

/-! ## Bit fields

At every use the positions are literals: `simp (disch := decide) only [Nat.reduceAdd,
Nat.reduceSub, …]` closes the side conditions and normalises `30 + 2`, `5 - 2` in the results
(`simp only` does not do so by itself), provided the goal is written with `2 ^ j`, not `8`:
`b64Bytes_eq`, `b32Idx_eq`, `b32Pack_eq` at the end of this part restate the model's three
arithmetic definitions that way (the powers evaluate to the model's numerals).  Only `hi` in
`b32Idx_eq` keeps its numerals: its two users regroup it differently (Horner's rule for
`fld_mul_add_high`, the nesting of Go's `|` for `fld_mul_add_low`).

In the laws of this part the arguments that a hypothesis determines are implicit, the others explicit. -/

/-- Bits `k … k+m-1` of `x`. -/
def fld (x k m : Nat) : Nat := x / 2 ^ k % 2 ^ m

theorem fld_zero (x m : Nat) : fld x 0 m = x % 2 ^ m := by rw [fld, Nat.pow_zero, Nat.div_one]

theorem fld_lt (x k m : Nat) : fld x k m < 2 ^ m := Nat.mod_lt _ (Nat.two_pow_pos m)

theorem fld_div (x k : Nat) {m j : Nat} (h : j ≤ m) :
    fld x k m / 2 ^ j = fld x (k + j) (m - j) := by
  obtain ⟨i, rfl⟩ := Nat.exists_eq_add_of_le h
  rw [fld, fld, Nat.pow_add 2 j, Nat.mod_mul_right_div_self, Nat.div_div_eq_div_mul,
    ← Nat.pow_add, Nat.add_sub_cancel_left]

/-- a field shifted left by `j` and truncated to `w` bits keeps its low `w - j` bits -/
theorem fld_mul_mod (x k : Nat) {m j w : Nat} (h : j ≤ w) (h' : w ≤ m + j) :
    fld x k m * 2 ^ j % 2 ^ w = fld x k (w - j) * 2 ^ j := by
  obtain ⟨i, rfl⟩ := Nat.exists_eq_add_of_le h
  rw [Nat.add_comm j i, Nat.pow_add 2 i, Nat.mul_mod_mul_right, fld, fld, Nat.add_sub_cancel,
    Nat.mod_mod_of_dvd _ (Nat.pow_dvd_pow 2 (by omega))]

/-- Adjacent fields concatenate (`k'` is a variable so that `simp` can match it against a
    literal). -/
theorem fld_concat (x i : Nat) {k k' j : Nat} (h : k' = k + j) :
    fld x k' i * 2 ^ j + fld x k j = fld x k (i + j) := by
  subst h
  rw [fld, fld, fld, Nat.add_comm i j, Nat.pow_add 2 j i, Nat.mod_mul, Nat.pow_add,
    Nat.div_div_eq_div_mul, Nat.mul_comm (2 ^ j), Nat.add_comm]

theorem fld_mod (x : Nat) {w k m : Nat} (h : k + m ≤ w) : fld (x % 2 ^ w) k m = fld x k m := by
  obtain ⟨i, rfl⟩ := Nat.exists_eq_add_of_le h
  rw [fld, fld, Nat.pow_add, Nat.pow_add, Nat.mul_assoc, Nat.mod_mul_right_div_self,
    Nat.mod_mul_right_mod]

theorem fld_fld (x k : Nat) {m k' m' : Nat} (h : k' + m' ≤ m) :
    fld (fld x k m) k' m' = fld x (k + k') m' := by
  rw [fld.eq_def x, fld_mod _ h, fld, fld, Nat.div_div_eq_div_mul, ← Nat.pow_add]

theorem fld_mul_add_high (x m : Nat) {r j k : Nat} (hr : r < 2 ^ j) (h : j ≤ k) :
    fld (x * 2 ^ j + r) k m = fld x (k - j) m := by
  obtain ⟨i, rfl⟩ := Nat.exists_eq_add_of_le h
  rw [fld, fld, Nat.pow_add, ← Nat.div_div_eq_div_mul, Nat.add_comm,
    Nat.add_mul_div_right _ _ (Nat.two_pow_pos j), Nat.div_eq_of_lt hr, Nat.zero_add,
    Nat.add_sub_cancel_left]

theorem fld_mul_add_low (x r : Nat) {j k m : Nat} (h : k + m ≤ j) :
    fld (x * 2 ^ j + r) k m = fld r k m := by
  obtain ⟨i, rfl⟩ := Nat.exists_eq_add_of_le h
  rw [fld, fld, Nat.pow_add, Nat.pow_add, Nat.mul_comm x, Nat.mul_assoc, Nat.mul_assoc,
    Nat.mul_add_div (Nat.two_pow_pos k), Nat.mul_add_mod]

theorem b64Bytes_eq (d0 d1 d2 d3 : Nat) :
    b64Bytes [d0, d1, d2, d3] =
      let val := d0 * 2 ^ 18 + d1 * 2 ^ 12 + d2 * 2 ^ 6 + d3
      [(fld val 16 8).toUInt8, (fld val 8 8).toUInt8, (fld val 0 8).toUInt8] := by
  simp only [fld_zero]; rfl

theorem b32Idx_eq (a b c d e : Nat) :
    b32Idx a b c d e =
      let hi := a * 16777216 + b * 65536 + c * 256 + d
      let lo := (hi * 2 ^ 8 + e) % 2 ^ 32
      [fld hi 27 5, fld hi 22 5, fld hi 17 5, fld hi 12 5, fld hi 7 5, fld hi 2 5, fld lo 5 5,
        fld lo 0 5] := by
  simp only [fld_zero]; rfl

theorem b32Pack_eq (d0 d1 d2 d3 d4 d5 d6 d7 : Nat) :
    b32Pack [d0, d1, d2, d3, d4, d5, d6, d7] =
      [(d0 * 2 ^ 3 % 2 ^ 8 + d1 / 2 ^ 2).toUInt8,
       (d1 * 2 ^ 6 % 2 ^ 8 + d2 * 2 ^ 1 + d3 / 2 ^ 4).toUInt8,
       (d3 * 2 ^ 4 % 2 ^ 8 + d4 / 2 ^ 1).toUInt8,
       (d4 * 2 ^ 7 % 2 ^ 8 + d5 * 2 ^ 2 + d6 / 2 ^ 3).toUInt8,
       (d6 * 2 ^ 5 % 2 ^ 8 + d7).toUInt8] := rfl

/-! ## Go's operators -/

theorem shl_or (a i b : Nat) (h : b < 2 ^ i) : a <<< i ||| b = a * 2 ^ i + b := by
  rw [← Nat.shiftLeft_add_eq_or_of_lt h, Nat.shiftLeft_eq]

theorem mul_add_lt {a b : Nat} (j i : Nat) (ha : a < 2 ^ j) (hb : b < 2 ^ i) :
    a * 2 ^ i + b < 2 ^ (j + i) :=
  calc a * 2 ^ i + b < (a + 1) * 2 ^ i := by rw [Nat.succ_mul]; exact Nat.add_lt_add_left hb _
    _ ≤ 2 ^ (j + i) := by rw [Nat.pow_add]; exact Nat.mul_le_mul_right _ ha

theorem shl_mod_or (x : Nat) {y i : Nat} (w : Nat) (hi : i ≤ w) (hy : y < 2 ^ i) :
    (x <<< i) % 2 ^ w ||| y = x * 2 ^ i % 2 ^ w + y := by
  obtain ⟨j, rfl⟩ := Nat.exists_eq_add_of_le hi
  rw [Nat.shiftLeft_eq, Nat.add_comm i j, Nat.pow_add, Nat.mul_mod_mul_right, ← Nat.shiftLeft_eq,
    Nat.shiftLeft_add_eq_or_of_lt hy]

theorem shr_lt {d j m : Nat} (h : d < 2 ^ (m + j)) : d >>> j < 2 ^ m := by
  rw [Nat.shiftRight_eq_div_pow]
  exact Nat.div_lt_of_lt_mul (by rwa [← Nat.pow_add, Nat.add_comm])

theorem and_3F (x : Nat) : x &&& 0x3F = x % 64 := Nat.and_two_pow_sub_one_eq_mod x 6
theorem and_1F (x : Nat) : x &&& 0x1F = x % 32 := Nat.and_two_pow_sub_one_eq_mod x 5
theorem and_0F (x : Nat) : x &&& 0x0F = x % 16 := Nat.and_two_pow_sub_one_eq_mod x 4

/-- (Next to `and_3F` in a `simp` set write `↓shr_and_3F`: `and_3F` matches the same term.) -/
theorem shr_and_3F (x k : Nat) : x >>> k &&& 0x3F = fld x k 6 := by
  rw [and_3F, Nat.shiftRight_eq_div_pow]; rfl
theorem shr_and_1F (x k : Nat) : x >>> k &&& 0x1F = fld x k 5 := by
  rw [and_1F, Nat.shiftRight_eq_div_pow]; rfl

/-- base32 `Encode`: `lo := hi<<8 | e` in `uint32`. -/
theorem b32_lo (hi e : Nat) (he : e < 256) :
    ((hi <<< 8) % 4294967296 ||| e) = (hi * 256 + e) % 4294967296 := by
  -- `hi * 2 ^ 8 % 2 ^ 32` is a multiple of 256, so adding `e` carries nothing over `2 ^ 32`
  rw [shl_mod_or hi 32 (by decide) (he : e < 2 ^ 8)]; omega

/-! ## The model's definitions, restated with Go's operators -/

/-- `hexDec`: `(a << 4) | b`. -/
theorem hexDec_bits (a b : Nat) (hb : b < 16) : (a * 16 + b).toUInt8 = (a <<< 4 ||| b).toUInt8 := by
  rw [shl_or a 4 b hb]

/-- `hexEnc`: `v >> 4`, `v & 0x0f`. -/
theorem hexEnc_bits (v : Nat) : v / 16 = v >>> 4 ∧ v % 16 = v &&& 0x0F := by
  rw [and_0F, Nat.shiftRight_eq_div_pow]; exact ⟨rfl, rfl⟩

/-- `b64uEnc`: the four alphabet indices of a quantum. -/
theorem b64uEnc_bits (a b c : Nat) (hb : b < 256) (hc : c < 256) :
    let val := a <<< 16 ||| b <<< 8 ||| c
    [val >>> 18 &&& 0x3F, val >>> 12 &&& 0x3F, val >>> 6 &&& 0x3F, val &&& 0x3F] =
      [(a * 65536 + b * 256 + c) / 262144 % 64, (a * 65536 + b * 256 + c) / 4096 % 64,
       (a * 65536 + b * 256 + c) / 64 % 64, (a * 65536 + b * 256 + c) % 64] := by
  rw [Nat.or_assoc, shl_or b 8 c hc, shl_or a 16 _ (mul_add_lt 8 8 hb hc), ← Nat.add_assoc]
  simp only [↓shr_and_3F, and_3F]
  rfl

/-- `b64Bytes`: `val := d0<<18 | d1<<12 | d2<<6 | d3`, bytes `byte(val>>16)`, `byte(val>>8)`,
    `byte(val)`. -/
theorem b64Bytes_bits (d0 d1 d2 d3 : Nat) (h1 : d1 < 64) (h2 : d2 < 64) (h3 : d3 < 64) :
    let val := d0 <<< 18 ||| d1 <<< 12 ||| d2 <<< 6 ||| d3
    b64Bytes [d0, d1, d2, d3] =
      [(val >>> 16 % 256).toUInt8, (val >>> 8 % 256).toUInt8, (val % 256).toUInt8] := by
  rw [Nat.or_assoc, Nat.or_assoc, shl_or d2 6 d3 h3, shl_or d1 12 _ (mul_add_lt 6 6 h2 h3),
    shl_or d0 18 _ (mul_add_lt 6 12 h1 (mul_add_lt 6 6 h2 h3)), ← Nat.add_assoc, ← Nat.add_assoc]
  simp only [Nat.shiftRight_eq_div_pow]
  rfl

/-- `b32Idx`: `hi`, `lo` and the eight alphabet indices of a full quantum. -/
theorem b32Idx_bits (a b c d e : Nat) (hb : b < 256) (hc : c < 256) (hd : d < 256) (he : e < 256) :
    let hi := a <<< 24 ||| b <<< 16 ||| c <<< 8 ||| d
    let lo := (hi <<< 8) % 4294967296 ||| e
    b32Idx a b c d e =
      [hi >>> 27 &&& 0x1F, hi >>> 22 &&& 0x1F, hi >>> 17 &&& 0x1F, hi >>> 12 &&& 0x1F,
       hi >>> 7 &&& 0x1F, hi >>> 2 &&& 0x1F, lo >>> 5 &&& 0x1F, lo &&& 0x1F] := by
  rw [Nat.or_assoc, Nat.or_assoc, shl_or c 8 d hd, shl_or b 16 _ (mul_add_lt 8 8 hc hd),
    shl_or a 24 _ (mul_add_lt 8 16 hb (mul_add_lt 8 8 hc hd)), ← Nat.add_assoc, ← Nat.add_assoc]
  simp only [b32_lo _ e he, ↓shr_and_1F, and_1F]
  rfl

/-- The final block of `base32.Encode` (`remain = 4`; for `remain = 3, 2, 1` take `d`, `c`, `b` = 0
    and fewer characters): Go accumulates `val` from the last byte upwards and emits characters
    6, 5 | 4 | 3, 2 | 1, 0 in between.  These are the first seven entries of `b32Idx a b c d 0`:
    a field of `hi` below the byte last or-ed in is a field of the bytes below it. -/
theorem b32Idx_tail_bits (a b c d : Nat) (hb : b < 256) (hc : c < 256)
    (hd : d < 256) :
    let v4 := d
    let v3 := v4 ||| c <<< 8
    let v2 := v3 ||| b <<< 16
    let v1 := v2 ||| a <<< 24
    (b32Idx a b c d 0).take 7 =
      [v1 >>> 27 &&& 0x1F, v1 >>> 22 &&& 0x1F, v2 >>> 17 &&& 0x1F, v2 >>> 12 &&& 0x1F,
       v3 >>> 7 &&& 0x1F, v4 >>> 2 &&& 0x1F, (v4 <<< 3) % 4294967296 &&& 0x1F] := by
  -- character 6: bits 5…9 of `lo = hi << 8` are bits 0, 1 of `d` above three zeros
  have h6 : fld ((a * 2 ^ 24 + (b * 2 ^ 16 + (c * 2 ^ 8 + d))) * 2 ^ 8 + 0) 5 5
      = d <<< 3 % 4294967296 % 32 := by
    rw [fld, Nat.shiftLeft_eq]; omega
  have hhi : a * 16777216 + b * 65536 + c * 256 + d
      = a * 2 ^ 24 + (b * 2 ^ 16 + (c * 2 ^ 8 + d)) :=
    (Nat.add_assoc ..).trans (Nat.add_assoc ..)
  simp only []  -- unfolds the `let`s
  rw [Nat.or_comm d, shl_or c 8 d hd, Nat.or_comm (c * 2 ^ 8 + d),
    shl_or b 16 _ (mul_add_lt 8 8 hc hd), Nat.or_comm (b * 2 ^ 16 + _),
    shl_or a 24 _ (mul_add_lt 8 16 hb (mul_add_lt 8 8 hc hd))]
  simp (disch := decide) only [↓shr_and_1F, and_1F, b32Idx_eq, fld_mod, hhi, h6,
    List.take_succ_cons, List.take_zero, fld_mul_add_low]

set_option linter.unusedVariables false in
/-- `b32Pack`: the five destination bytes.  (`h0` is not needed: the first byte truncates `d0 << 3` to `uint8`
    in Go as in the model.) -/
theorem b32Pack_bits (d0 d1 d2 d3 d4 d5 d6 d7 : Nat) (h0 : d0 < 32) (h1 : d1 < 32) (h2 : d2 < 32)
    (h3 : d3 < 32) (h4 : d4 < 32) (h5 : d5 < 32) (h6 : d6 < 32) (h7 : d7 < 32) :
    b32Pack [d0, d1, d2, d3, d4, d5, d6, d7] =
      [((d0 <<< 3) % 256 ||| d1 >>> 2).toUInt8,
       ((d1 <<< 6) % 256 ||| (d2 <<< 1) % 256 ||| d3 >>> 4).toUInt8,
       ((d3 <<< 4) % 256 ||| d4 >>> 1).toUInt8,
       ((d4 <<< 7) % 256 ||| (d5 <<< 2) % 256 ||| d6 >>> 3).toUInt8,
       ((d6 <<< 5) % 256 ||| d7).toUInt8] := by
  have e2 : d2 * 2 ^ 1 % 2 ^ 8 = d2 * 2 := by omega
  have e5 : d5 * 2 ^ 2 % 2 ^ 8 = d5 * 4 := by omega
  -- every `|` joins a left shift, truncated to a byte, and bits below it
  rw [Nat.or_assoc, Nat.or_assoc,
    shl_mod_or d0 8 (by decide) (shr_lt (m := 3) h1),
    shl_mod_or d2 8 (by decide) (shr_lt (m := 1) h3), e2,
    shl_mod_or d1 8 (by decide) (mul_add_lt 5 1 h2 (shr_lt h3)),
    shl_mod_or d3 8 (by decide) (shr_lt (m := 4) h4),
    shl_mod_or d5 8 (by decide) (shr_lt (m := 2) h6), e5,
    shl_mod_or d4 8 (by decide) (mul_add_lt 5 2 h5 (shr_lt h6)),
    shl_mod_or d6 8 (by decide) (h7 : d7 < 2 ^ 5), ← Nat.add_assoc, ← Nat.add_assoc]
  simp only [Nat.shiftRight_eq_div_pow]
  rfl

end Genql.Codec.Bits

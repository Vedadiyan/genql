/-
  The codecs of Genql.Model.Codec: a decoder loop undoes its encoder because the alphabet is a table
  with a partial inverse and because the indices an encoder writes are bit fields of one number,
  which concatenate to its bytes again (Genql.Proofs.CodecBits).
-/
import Genql.Proofs.CodecBits
namespace Genql.Codec
open Bits

/-! ## alphabets -/

/-- A table `l` that `f` maps back, entry by entry, to the positions `0 … N-1` (for a concrete
    table the hypothesis is one kernel evaluation). -/
theorem getD_of_map_eq_range {α : Type} {l : List α} {f : α → Option Nat} {N : Nat}
    (h : l.map f = (List.range N).map some) {n : Nat} (hn : n < N) (d : α) :
    l.getD n d ∈ l ∧ f (l.getD n d) = some n := by
  have hn' := congrArg (·[n]?) h
  simp only [List.getElem?_map, List.getElem?_range hn, Option.map_some] at hn'
  rw [List.getD_eq_getElem?_getD]
  cases hc : l[n]? with
  | none => rw [hc] at hn'; cases hn'
  | some c => rw [hc] at hn'; exact ⟨List.mem_of_getElem? hc, Option.some.inj hn'⟩

theorem hexDigit_spec {n : Nat} (h : n < 16) :
    hexDigit n ∈ hexAlpha ∧ hexVal (hexDigit n) = some n :=
  getD_of_map_eq_range (by decide +kernel) h '0'

theorem b64uChar_spec {n : Nat} (h : n < 64) :
    b64uChar n ∈ b64uAlpha ∧ b64uVal (b64uChar n) = some n :=
  getD_of_map_eq_range (by decide +kernel) h 'A'

theorem b32Char_spec {n : Nat} (h : n < 32) :
    b32Char n ∈ b32Alpha ∧ b32Val (b32Char n) = some n :=
  getD_of_map_eq_range (by decide +kernel) h 'A'

theorem b64uVal_pad : b64uVal '=' = none := by decide

theorem b32Val_pad : b32Val '=' = none := by decide

theorem ne_of_val {f : Char → Option Nat} {c p : Char} {n : Nat} (hc : f c = some n)
    (hp : f p = none) : c ≠ p := fun e => by
  rw [e, hp] at hc
  cases hc

theorem val_nl {c : Char} (h : isNL c = true) : b64uVal c = none ∧ b32Val c = none := by
  simp only [isNL, Bool.or_eq_true, beq_iff_eq] at h
  rcases h with rfl | rfl <;> decide

theorem b32Val_not_nl {c : Char} {n : Nat} (h : b32Val c = some n) : isNL c = false :=
  Bool.eq_false_iff.2 fun hnl => by rw [(val_nl hnl).2] at h; cases h

/-! ## base64url -/

theorem b64uLoop_val {c : Char} {n : Nat} (h : b64uVal c = some n) (src : List Char)
    (dbuf : List Nat) :
    b64uLoop (c :: src) dbuf =
      if dbuf.length = 3 then (b64uLoop src []).map fun bs => b64Bytes (dbuf ++ [n]) ++ bs
      else b64uLoop src (dbuf ++ [n]) := by
  rw [b64uLoop.eq_def]; simp only [h]

theorem b64uLoop_pad (src : List Char) (dbuf : List Nat) :
    b64uLoop ('=' :: src) dbuf =
      if dbuf.length < 2 then none
      else if b64PadOk dbuf.length src then some ((b64Bytes dbuf).take (dbuf.length - 1))
      else none := by
  rw [b64uLoop.eq_def]; simp [b64uVal_pad, isNL]

/-- the bytes rebuilt from the four 6-bit digits of `v` are the three 8-bit digits of `v` -/
theorem b64Bytes_digits (v : Nat) :
    b64Bytes [fld v 18 6, fld v 12 6, fld v 6 6, fld v 0 6] =
      [(fld v 16 8).toUInt8, (fld v 8 8).toUInt8, (fld v 0 8).toUInt8] := by
  simp (disch := decide) only [b64Bytes_eq, Nat.reduceAdd, Nat.add_assoc, fld_concat, fld_fld]

/-- (`v` is a variable so that a final block can give its own, shorter, sum.) -/
theorem b64Bytes_idx (a b c : UInt8) {v : Nat}
    (hv : v = a.toNat * 65536 + b.toNat * 256 + c.toNat) :
    b64Bytes [v / 262144 % 64, v / 4096 % 64, v / 64 % 64, v % 64] = [a, b, c] := by
  have h := b64Bytes_digits v
  rw [fld_zero] at h
  -- the digits as `b64uEnc` writes them are these fields (`262144 = 2 ^ 18` … by evaluation)
  refine h.trans ?_
  rw [hv, show a.toNat * 65536 + b.toNat * 256 + c.toNat
    = (a.toNat * 2 ^ 8 + b.toNat) * 2 ^ 8 + c.toNat by omega]
  simp (disch := first | exact UInt8.toNat_lt _ | decide) only [Nat.reduceSub, fld_mul_add_high,
    fld_zero, Nat.mul_add_mod_self_right, Nat.mod_eq_of_lt, Nat.toUInt8_eq, UInt8.ofNat_toNat]

theorem b64uLoop_enc (bs : List UInt8) : b64uLoop (b64uEnc bs) [] = some bs := by
  have hch := fun n => b64uLoop_val (b64uChar_spec (Nat.mod_lt n (by decide))).2
  induction bs using b64uEnc.induct with
  | case1 => rfl
  | case2 a =>
    -- a final block is a full one whose absent bytes are 0: so are the digits not written
    have h := b64Bytes_idx a 0 0 (v := a.toNat * 65536) (by simp)
    rw [show a.toNat * 65536 / 64 % 64 = 0 by omega,
      show a.toNat * 65536 % 64 = 0 by simp [Nat.mul_mod]] at h
    simp only [b64uEnc, hch, b64uLoop_pad, b64PadOk]
    exact congrArg (fun l => some (l.take 1)) h
  | case3 a b =>
    have h := b64Bytes_idx a b 0 (v := a.toNat * 65536 + b.toNat * 256) (by simp)
    rw [show (a.toNat * 65536 + b.toNat * 256) % 64 = 0 by
      simp [Nat.add_mod, Nat.mul_mod]] at h
    simp only [b64uEnc, hch, b64uLoop_pad, b64PadOk]
    exact congrArg (fun l => some (l.take 2)) h
  | case4 a b c rest ih => simp [b64uEnc, hch, ih, b64Bytes_idx a b c rfl]

/-! ## base64: newlines are skipped wherever they occur -/

theorem dropWhile_nl_isEmpty (l : List Char) :
    ((l.filter fun c => !isNL c).dropWhile isNL).isEmpty = (l.dropWhile isNL).isEmpty := by
  induction l with
  | nil => rfl
  | cons c l ih => by_cases h : isNL c = true <;> simp [h, ih]

theorem b64PadOk_filter (j : Nat) (src : List Char) :
    b64PadOk j (src.filter fun c => !isNL c) = b64PadOk j src := by
  induction src with
  | nil => rfl
  | cons c l ih =>
    by_cases h : isNL c = true
    · simpa [b64PadOk, h] using ih
    · simp [b64PadOk, h, dropWhile_nl_isEmpty]

theorem b64uLoop_filter (cs : List Char) (dbuf : List Nat) :
    b64uLoop (cs.filter fun c => !isNL c) dbuf = b64uLoop cs dbuf := by
  induction cs generalizing dbuf with
  | nil => rfl
  | cons c cs ih =>
    rw [List.filter_cons, b64uLoop.eq_def (c :: cs)]
    cases h : isNL c with
    | true => simp only [Bool.not_true, Bool.false_eq_true, if_false, (val_nl h).1, h, if_true, ih]
    | false =>
      simp only [Bool.not_false, if_true]
      rw [b64uLoop.eq_def]
      simp only [ih, b64PadOk_filter, h]

/-! ## base32 -/

theorem b32Loop_val {c : Char} {n : Nat} (h : b32Val c = some n) (src : List Char)
    (dbuf : List Nat) :
    b32Loop (c :: src) dbuf =
      if dbuf.length = 7 then (b32Loop src []).map fun bs => b32Pack (dbuf ++ [n]) ++ bs
      else b32Loop src (dbuf ++ [n]) := by
  rw [b32Loop.eq_def]; simp only [ne_of_val h b32Val_pad, false_and, if_false, h]

/-- feeding the characters of up to eight indices: the eighth closes the quantum (`h7` is needed
    for `vs = []` only) -/
theorem b32Loop_vals {vs : List Nat} (hlt : ∀ v ∈ vs, v < 32) (src : List Char)
    (dbuf : List Nat) (h : dbuf.length + vs.length ≤ 8) (h7 : dbuf.length ≤ 7) :
    b32Loop (vs.map b32Char ++ src) dbuf =
      if dbuf.length + vs.length = 8 then (b32Loop src []).map fun bs => b32Pack (dbuf ++ vs) ++ bs
      else b32Loop src (dbuf ++ vs) := by
  induction vs generalizing dbuf with
  | nil => simp [show dbuf.length ≠ 8 by omega]
  | cons v vs ih =>
    simp only [List.length_cons] at h
    simp only [List.map_cons, List.cons_append, b32Loop_val (b32Char_spec (hlt v (by simp))).2]
    split
    · next h7' =>
      have : vs = [] := List.eq_nil_of_length_eq_zero (by omega)
      subst this; simp [h7']
    · rw [ih (fun w hw => hlt w (by simp [hw])) (dbuf ++ [v]) (by simp; omega) (by simp; omega)]
      simp [Nat.add_assoc, Nat.add_comm 1]

theorem utf8Len_replicate_pad (n : Nat) : utf8Len (List.replicate n '=') = n := by
  induction n with
  | zero => rfl
  | succ n ih =>
    have : Char.utf8Size '=' = 1 := by decide
    simp only [List.replicate_succ, utf8Len, List.foldr_cons] at ih ⊢
    rw [ih, this]; omega

/-- padding that fills the quantum is accepted after 2, 4, 5 or 7 characters (`k` names the length
    so that the caller's `hk`, `hn` apply to it) -/
theorem b32Loop_pad {n k : Nat} {dbuf : List Nat} (hlen : dbuf.length = k)
    (hk : k = 2 ∨ k = 4 ∨ k = 5 ∨ k = 7) (hn : n + 1 + k = 8) :
    b32Loop (pad (n + 1)) dbuf = some (b32Pack dbuf) := by
  have h : n < 8 ∧ ¬ n + k < 7 ∧ 2 ≤ k ∧ k ≠ 1 ∧ k ≠ 3 ∧ k ≠ 6 := by omega
  rw [pad, List.replicate_succ, b32Loop.eq_def]
  simp [utf8Len_replicate_pad, hlen, h]

theorem b32Idx_length (a b c d e : Nat) : (b32Idx a b c d e).length = 8 := rfl

theorem b32Idx_lt {a b c d e v : Nat} (hv : v ∈ b32Idx a b c d e) : v < 32 := by
  simp only [b32Idx_eq, List.mem_cons, List.not_mem_nil, or_false] at hv
  rcases hv with rfl | rfl | rfl | rfl | rfl | rfl | rfl | rfl <;> exact fld_lt ..

/-- packing the eight 5-bit digits of `N` gives the five 8-bit digits of `N` -/
theorem b32Pack_digits (N : Nat) :
    b32Pack [fld N 35 5, fld N 30 5, fld N 25 5, fld N 20 5, fld N 15 5, fld N 10 5, fld N 5 5,
      fld N 0 5] =
    [(fld N 32 8).toUInt8, (fld N 24 8).toUInt8, (fld N 16 8).toUInt8, (fld N 8 8).toUInt8,
      (fld N 0 8).toUInt8] := by
  simp (disch := decide) only [b32Pack_eq, Nat.reduceAdd, Nat.reduceSub, fld_div, fld_mul_mod,
    Nat.add_assoc, fld_concat]

theorem b32Pack_idx (a b c d e : UInt8) :
    b32Pack (b32Idx a.toNat b.toNat c.toNat d.toNat e.toNat) = [a, b, c, d, e] := by
  -- the indices are the digits of `N = hi * 2^8 + e`: six fields of `hi`, two of `lo = N % 2^32`
  have h := b32Pack_digits
    ((a.toNat * 16777216 + b.toNat * 65536 + c.toNat * 256 + d.toNat) * 2 ^ 8 + e.toNat)
  simp (disch := decide) only [Nat.reduceSub, fld_mul_add_high _ _ e.toNat_lt] at h
  simp (disch := decide) only [b32Idx_eq, fld_mod]
  rw [h, show a.toNat * 16777216 + b.toNat * 65536 + c.toNat * 256 + d.toNat
    = ((a.toNat * 2 ^ 8 + b.toNat) * 2 ^ 8 + c.toNat) * 2 ^ 8 + d.toNat by omega]
  simp (disch := first | exact UInt8.toNat_lt _ | decide) only [Nat.reduceSub, fld_mul_add_high,
    fld_zero, Nat.mul_add_mod_self_right, Nat.mod_eq_of_lt, Nat.toUInt8_eq, UInt8.ofNat_toNat]

/-- A final block of 1, 2, 3, 4 bytes is a full one whose absent bytes are 0, cut after
    `k` = 2, 4, 5, 7 characters; `b32Pack` of the first `k` indices gives the first `5 * k / 8`
    bytes. -/
theorem b32Loop_tail (a b c d : UInt8) (k n : Nat) (hk : k = 2 ∨ k = 4 ∨ k = 5 ∨ k = 7)
    (hn : n + 1 + k = 8) :
    b32Loop (((b32Idx a.toNat b.toNat c.toNat d.toNat 0).take k).map b32Char ++ pad (n + 1)) [] =
      some ([a, b, c, d].take (5 * k / 8)) := by
  have hlen : ((b32Idx a.toNat b.toNat c.toNat d.toNat 0).take k).length = k := by
    rw [List.length_take, b32Idx_length]; omega
  rw [b32Loop_vals (fun _ hv => b32Idx_lt (List.mem_of_mem_take hv)) _ []
    (by rw [hlen]; simp; omega) (by simp), if_neg (by rw [hlen]; simp; omega), List.nil_append,
    b32Loop_pad hlen hk hn]
  have h := congrArg (fun l => some (l.take (5 * k / 8))) (b32Pack_idx a b c d 0)
  -- for each `k` the last sentence holds by the equations of `b32Pack` and `take`, inside `exact`
  rcases hk with rfl | rfl | rfl | rfl <;> exact h

theorem b32Loop_enc (bs : List UInt8) : b32Loop (b32Enc bs) [] = some bs := by
  induction bs using b32Enc.induct with
  | case1 => rfl
  | case2 a => exact b32Loop_tail a 0 0 0 2 5 (by simp) rfl
  | case3 a b => exact b32Loop_tail a b 0 0 4 3 (by simp) rfl
  | case4 a b c => exact b32Loop_tail a b c 0 5 2 (by simp) rfl
  | case5 a b c d => exact b32Loop_tail a b c d 7 0 (by simp) rfl
  | case6 a b c d e rest ih =>
    rw [b32Enc, b32Loop_vals (fun _ => b32Idx_lt) _ [] (by simp [b32Idx_length]) (by simp),
      if_pos (by simp [b32Idx_length]), ih, List.nil_append, b32Pack_idx]
    rfl

/-! ## what every character of an encoder's output satisfies -/

theorem b64uEnc_forall {P : Char → Prop} (hc : ∀ n, n < 64 → P (b64uChar n)) (bs : List UInt8)
    (hp : bs.length % 3 ≠ 0 → P '=') : ∀ c ∈ b64uEnc bs, P c := by
  have hm : ∀ n, P (b64uChar (n % 64)) := fun n => hc _ (Nat.mod_lt n (by decide))
  induction bs using b64uEnc.induct with
  | case1 => nofun
  | case2 a =>
    have := hp (by simp)
    simp only [b64uEnc, List.forall_mem_cons]
    exact ⟨hm _, hm _, this, this, nofun⟩
  | case3 a b =>
    simp only [b64uEnc, List.forall_mem_cons]
    exact ⟨hm _, hm _, hm _, hp (by simp), nofun⟩
  | case4 a b c rest ih =>
    simp only [b64uEnc, List.forall_mem_cons]
    exact ⟨hm _, hm _, hm _, hm _,
      ih fun h => hp (by simp only [List.length_cons] at h ⊢; omega)⟩

theorem b32Enc_forall {P : Char → Prop} (hc : ∀ n, n < 32 → P (b32Char n)) (hp : P '=')
    (bs : List UInt8) : ∀ c ∈ b32Enc bs, P c := by
  induction bs using b32Enc.induct with
  | case1 => nofun
  | case6 a b c d e rest ih =>
    simp only [b32Enc, List.forall_mem_append, List.forall_mem_map]
    exact ⟨fun v hv => hc v (b32Idx_lt hv), ih⟩
  | _ =>
    simp only [b32Enc, pad, List.forall_mem_append, List.forall_mem_map, List.forall_mem_replicate]
    exact ⟨fun v hv => hc v (b32Idx_lt (List.mem_of_mem_take hv)), .inr hp⟩

end Genql.Codec

/-
  Every answer of `compareGo` is the three-way comparison `cmp3` of two keys in a linear order
  (integers, cross-multiplied dyadics, `%v` texts).  Range, antisymmetry, transitivity and the
  reading of each of the three results are proved once, for `cmp3`; the lemmas on the model say
  which keys each branch compares.
-/
import Genql.Model.Compare
namespace Genql.Cmp
open Std

section cmp3
variable {α : Type} [LT α] [DecidableLT α] [DecidableEq α]

/-- The three-way comparison.  The tests are `<` then `=` (not `<` then `>`): `C15.lex3` and the
    right-hand sides of `C15.cmp_str_lex`, `C15.cmp_num_rat` then unfold to it by `rfl`. -/
def cmp3 (x y : α) : Int := if x < y then -1 else if x = y then 0 else 1

theorem cmp3_range (x y : α) : cmp3 x y = -1 ∨ cmp3 x y = 0 ∨ cmp3 x y = 1 := by
  unfold cmp3
  split
  · exact .inl rfl
  · split
    · exact .inr (.inl rfl)
    · exact .inr (.inr rfl)

theorem cmp3_of_lt {x y : α} (h : x < y) : cmp3 x y = -1 := if_pos h

variable [LE α] [LawfulOrderLT α]

theorem cmp3_self (x : α) : cmp3 x x = 0 := by
  rw [cmp3, if_neg Std.lt_irrefl, if_pos rfl]

theorem cmp3_of_gt {x y : α} (h : y < x) : cmp3 x y = 1 := by
  rw [cmp3, if_neg (Std.not_gt_of_lt h), if_neg (Std.ne_of_lt h).symm]

variable [IsLinearOrder α]

theorem cmp3_antisymm (x y : α) : cmp3 y x = -cmp3 x y := by
  rcases Std.lt_trichotomy x y with h | rfl | h
  · rw [cmp3_of_lt h, cmp3_of_gt h]; rfl
  · rw [cmp3_self]; rfl
  · rw [cmp3_of_gt h, cmp3_of_lt h]

theorem cmp3_eq_neg_one {x y : α} : cmp3 x y = -1 ↔ x < y := by
  refine ⟨fun e => ?_, cmp3_of_lt⟩
  rcases Std.lt_trichotomy x y with h | rfl | h
  · exact h
  · rw [cmp3_self] at e; cases e
  · rw [cmp3_of_gt h] at e; cases e

theorem cmp3_eq_zero {x y : α} : cmp3 x y = 0 ↔ x = y := by
  refine ⟨fun e => ?_, fun h => h ▸ cmp3_self x⟩
  rcases Std.lt_trichotomy x y with h | rfl | h
  · rw [cmp3_of_lt h] at e; cases e
  · rfl
  · rw [cmp3_of_gt h] at e; cases e

theorem cmp3_eq_one {x y : α} : cmp3 x y = 1 ↔ y < x := by
  rw [← cmp3_eq_neg_one, cmp3_antisymm x y, Int.neg_inj]

/-- transitivity in the form C15 states it: for `x ≤ y ≤ z` the comparison of `x` with `z` is the
    smaller of the two given results, `-1` as soon as one step is strict -/
theorem cmp3_trans {x y z : α} {c d : Int} (h1 : cmp3 x y = c) (h2 : cmp3 y z = d) (hc : c ≤ 0)
    (hd : d ≤ 0) : cmp3 x z = min c d := by
  subst h1 h2
  rcases Std.lt_trichotomy x y with h | rfl | h
  · rcases Std.lt_trichotomy y z with h' | rfl | h'
    · rw [cmp3_of_lt h, cmp3_of_lt h', cmp3_of_lt (Std.lt_trans h h')]; rfl
    · rw [cmp3_self, cmp3_of_lt h]; rfl
    · rw [cmp3_of_gt h'] at hd; cases hd
  · rw [cmp3_self, Int.min_eq_right hd]
  · rw [cmp3_of_gt h] at hc; cases hc

/-- `cmp3` along a map that preserves and reflects `<`: magnitudes in ℕ to ℤ (`cmpNum_int`), cross products in ℤ to the
    rational values (`C15.signSub_eq_cmp3`) -/
theorem cmp3_congr {β : Type} [LT β] [DecidableLT β] [DecidableEq β] [LE β] [LawfulOrderLT β]
    [IsLinearOrder β] {x y : α} {x' y' : β} (h₁ : x < y ↔ x' < y') (h₂ : y < x ↔ y' < x') :
    cmp3 x y = cmp3 x' y' := by
  rcases Std.lt_trichotomy x' y' with h | rfl | h
  · rw [cmp3_of_lt h, cmp3_of_lt (h₁.mpr h)]
  · rw [cmp3_self, cmp3_eq_zero]
    rcases Std.lt_trichotomy x y with h | e | h
    · exact absurd (h₁.mp h) Std.lt_irrefl
    · exact e
    · exact absurd (h₂.mp h) Std.lt_irrefl
  · rw [cmp3_of_gt h, cmp3_of_gt (h₂.mpr h)]

end cmp3

theorem sign_sub_eq_cmp3 (p q : Int) : (p - q).sign = cmp3 p q := by
  rcases Int.lt_trichotomy p q with h | rfl | h
  · rw [cmp3_of_lt h, Int.sign_eq_neg_one_of_neg (Int.sub_neg_of_lt h)]
  · rw [cmp3_self, Int.sub_self]; rfl
  · rw [cmp3_of_gt h, Int.sign_eq_one_of_pos (Int.sub_pos_of_lt h)]

theorem strCompare_eq_cmp3 (a b : String) : strCompare a b = cmp3 a b := by
  unfold strCompare
  split
  · next h => rw [h, cmp3_self]
  · next h =>
    rw [cmp3, if_neg h]

theorem pow2_zero : pow2 0 = 1 := rfl

-- The order and the equality that `cmpNum_float` decides, as decidable relations on `Dyadic`
-- (C15 states them with `2 ^ _` instead, see `C15.signSub`); no proof uses them.
/-- `x < y` for the rationals denoted by two dyadics -/
def Dyadic.Lt (x y : Dyadic) : Prop := x.m * pow2 y.e < y.m * pow2 x.e
/-- `x = y` as rationals -/
def Dyadic.Eqv (x y : Dyadic) : Prop := x.m * pow2 y.e = y.m * pow2 x.e

instance (x y : Dyadic) : Decidable (x.Lt y) := by unfold Dyadic.Lt; infer_instance
instance (x y : Dyadic) : Decidable (x.Eqv y) := by unfold Dyadic.Eqv; infer_instance

theorem integer_int (k : IntKind) (v : Int) : integer (.int k v) = some (decide (v < 0), v.natAbs) :=
  rfl

theorem integer_eq_none_iff {a : GoVal} : integer a = none ↔ ∀ k v, a ≠ .int k v := by
  cases a <;> simp [integer]

/-- the last two tests of the sign-and-magnitude branch, on the magnitudes `m`, `n` of two integers
    of the same sign `s`: their order, reversed when both are negative -/
theorem magCmp (s : Bool) (m n : Nat) :
    (if m = n then 0 else if (decide (m > n) != s) = true then 1 else -1 : Int) =
      if s then cmp3 n m else cmp3 m n := by
  rcases Nat.lt_trichotomy m n with h | rfl | h
  · rw [if_neg (Nat.ne_of_lt h), decide_eq_false (Nat.lt_asymm h), cmp3_of_lt h, cmp3_of_gt h]
    cases s <;> rfl
  · rw [if_pos rfl, cmp3_self]; cases s <;> rfl
  · rw [if_neg (Nat.ne_of_gt h), decide_eq_true h, cmp3_of_lt h, cmp3_of_gt h]
    cases s <;> rfl

/-- the sign-and-magnitude branch of `Cmp` -/
theorem cmpNum_int (k k' : IntKind) (v w : Int) :
    cmpNum (.int k v) (.int k' w) = cmp3 v w := by
  simp only [cmpNum, integer]
  by_cases hv : v < 0 <;> by_cases hw : w < 0
  · obtain ⟨m, rfl⟩ := Int.exists_eq_neg_ofNat (Int.le_of_lt hv)
    obtain ⟨n, rfl⟩ := Int.exists_eq_neg_ofNat (Int.le_of_lt hw)
    rw [decide_eq_true hv, decide_eq_true hw, Int.natAbs_neg, Int.natAbs_neg, Int.natAbs_natCast,
      Int.natAbs_natCast]
    exact (magCmp true m n).trans (cmp3_congr (Int.neg_lt_neg_iff.trans Int.ofNat_lt).symm
      (Int.neg_lt_neg_iff.trans Int.ofNat_lt).symm)
  · rw [decide_eq_true hv, decide_eq_false hw]
    exact (cmp3_of_lt (Int.lt_of_lt_of_le hv (Int.not_lt.mp hw))).symm
  · rw [decide_eq_false hv, decide_eq_true hw]
    exact (cmp3_of_gt (Int.lt_of_lt_of_le hw (Int.not_lt.mp hv))).symm
  · obtain ⟨m, rfl⟩ := Int.eq_ofNat_of_zero_le (Int.not_lt.mp hv)
    obtain ⟨n, rfl⟩ := Int.eq_ofNat_of_zero_le (Int.not_lt.mp hw)
    rw [decide_eq_false hv, decide_eq_false hw, Int.natAbs_natCast, Int.natAbs_natCast]
    exact (magCmp false m n).trans (cmp3_congr Int.ofNat_lt.symm Int.ofNat_lt.symm)

/-- every other numeric pair is compared as `float64`: the two dyadics `m / 2^e`, cross-multiplied
    (the denominators are positive) -/
theorem cmpNum_float {a b : GoVal} (h : integer a = none ∨ integer b = none) :
    cmpNum a b = cmp3 ((asF64 a).m * pow2 (asF64 b).e) ((asF64 b).m * pow2 (asF64 a).e) := by
  have e : cmpNum a b =
      if (asF64 a).eq (asF64 b) then 0 else if (asF64 a).gt (asF64 b) then 1 else -1 := by
    unfold cmpNum
    rcases h with h | h
    · rw [h]
    · rw [h]; cases integer a <;> rfl
  rw [e, Dyadic.eq, Dyadic.gt]
  generalize (asF64 a).m * pow2 (asF64 b).e = p
  generalize (asF64 b).m * pow2 (asF64 a).e = q
  rcases Int.lt_trichotomy p q with h | rfl | h
  · rw [cmp3_of_lt h, decide_eq_false (Int.ne_of_lt h), decide_eq_false (Int.lt_asymm h)]; rfl
  · rw [cmp3_self, decide_eq_true rfl]; rfl
  · rw [cmp3_of_gt h, decide_eq_false (Int.ne_of_gt h), decide_eq_true h]; rfl

/-- Each single answer of `Cmp`, and the answer with the operands exchanged, is the three-way
    comparison of two integers: the values of two integers, the cross-multiplied `float64`
    conversions otherwise.  (Which integers depends on the pair: across pairs `Cmp` is not an
    order, see the counter-example to transitivity in C15.) -/
theorem cmpNum_eq_cmp3 (a b : GoVal) :
    ∃ p q : Int, cmpNum a b = cmp3 p q ∧ cmpNum b a = cmp3 q p := by
  cases a with
  | int k v =>
    cases b with
    | int k' w => exact ⟨v, w, cmpNum_int .., cmpNum_int ..⟩
    | _ => exact ⟨_, _, cmpNum_float (.inr rfl), cmpNum_float (.inl rfl)⟩
  | _ => exact ⟨_, _, cmpNum_float (.inl rfl), cmpNum_float (.inr rfl)⟩

theorem roundNat53_exact {n : Nat} (h : n ≤ 2 ^ 53) : roundNat53 n = n := by
  rcases Nat.lt_or_eq_of_le h with h' | rfl
  · exact if_pos h'
  · decide

theorem intToF64_exact {v : Int} (h : v.natAbs ≤ 2 ^ 53) : intToF64 v = ⟨v, 0⟩ := by
  unfold intToF64
  rw [roundNat53_exact h]
  congr 1
  split
  · next hv => exact (Int.neg_eq_comm.mp (Int.ofNat_natAbs_of_nonpos (Int.le_of_lt hv)).symm)
  · next hv => exact Int.natAbs_of_nonneg (Int.not_lt.mp hv)

theorem cmpText_eq_cmp3 {a b : GoVal} {c : Int} (h : cmpText a b = some c) :
    ∃ s t : String, c = cmp3 s t ∧ cmpText b a = some (cmp3 t s) := by
  unfold cmpText at *
  cases ha : fmtGo a <;> cases hb : fmtGo b <;> simp only [ha, hb] at h ⊢ <;> cases h
  exact ⟨_, _, strCompare_eq_cmp3 .., congrArg some (strCompare_eq_cmp3 ..)⟩

theorem compareGo_num_num {a b : GoVal} (ha : a.isNum = true) (hb : b.isNum = true) :
    compareGo a b = some (cmpNum a b) := by
  simp [compareGo, compareT, ha, hb]

/-- the three text branches of `Compare` / `compare` (`case string` and the two fall-throughs) all
    compute `cmpText` -/
theorem compareGo_text {a b : GoVal} (h : ¬ (a.isNum = true ∧ b.isNum = true)) :
    compareGo a b = cmpText a b := by
  unfold compareGo
  split
  · next ha =>
    have hb : ¬ b.isNum = true := fun hb => h ⟨ha, hb⟩
    unfold compareT
    rw [if_neg hb]
    split
    · unfold cmpText; cases fmtGo a <;> rfl
    · rfl
  · rfl

/-- Every defined answer of `Compare`, and the answer with the operands exchanged, is the three-way
    comparison of two integers or of two texts. -/
theorem compareGo_eq_cmp3 {a b : GoVal} {c : Int} (h : compareGo a b = some c) :
    (∃ p q : Int, c = cmp3 p q ∧ compareGo b a = some (cmp3 q p)) ∨
    (∃ s t : String, c = cmp3 s t ∧ compareGo b a = some (cmp3 t s)) := by
  by_cases hn : a.isNum = true ∧ b.isNum = true
  · rw [compareGo_num_num hn.1 hn.2] at h
    obtain ⟨p, q, e, e'⟩ := cmpNum_eq_cmp3 a b
    exact .inl ⟨p, q, by rw [← Option.some.inj h, e], by rw [compareGo_num_num hn.2 hn.1, e']⟩
  · rw [compareGo_text hn] at h
    rw [compareGo_text (mt And.symm hn)]
    exact .inr (cmpText_eq_cmp3 h)

end Genql.Cmp

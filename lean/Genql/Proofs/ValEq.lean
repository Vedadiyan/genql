/-
  Genql.Proofs.ValEq — decidable equality of `Val N` (a nested inductive, for which `deriving`
  does not work), so that concrete evaluations of the model can be checked by `decide` (that of
  `Except ε α` is in `Proofs/Loops`).
-/
import Genql.Basic
namespace Genql
variable {N : Type} [DecidableEq N]

mutual
def Val.beq : Val N → Val N → Bool
  | .null, .null => true
  | .bool a, .bool b => a == b
  | .num a, .num b => decide (a = b)
  | .str a, .str b => a == b
  | .arr xs, .arr ys => Val.beqList xs ys
  | .obj fs, .obj gs => Val.beqFields fs gs
  | _, _ => false
def Val.beqList : List (Val N) → List (Val N) → Bool
  | [], [] => true
  | x :: xs, y :: ys => Val.beq x y && Val.beqList xs ys
  | _, _ => false
def Val.beqFields : List (String × Val N) → List (String × Val N) → Bool
  | [], [] => true
  | (k, x) :: xs, (l, y) :: ys => k == l && Val.beq x y && Val.beqFields xs ys
  | _, _ => false
end

mutual
theorem Val.beq_eq : ∀ (a b : Val N), Val.beq a b = true → a = b
  | .null, b => by cases b <;> simp [Val.beq]
  | .bool x, b => by cases b <;> simp [Val.beq]
  | .num x, b => by cases b <;> simp [Val.beq]
  | .str x, b => by cases b <;> simp [Val.beq]
  | .arr xs, b => by
    cases b <;> simp [Val.beq]
    case arr ys => exact Val.beqList_eq xs ys
  | .obj fs, b => by
    cases b <;> simp [Val.beq]
    case obj gs => exact Val.beqFields_eq fs gs
theorem Val.beqList_eq : ∀ (xs ys : List (Val N)), Val.beqList xs ys = true → xs = ys
  | [], ys => by cases ys <;> simp [Val.beqList]
  | x :: xs, ys => by
    cases ys with
    | nil => simp [Val.beqList]
    | cons y ys =>
      simp only [Val.beqList, Bool.and_eq_true, List.cons.injEq]
      exact fun h => ⟨Val.beq_eq x y h.1, Val.beqList_eq xs ys h.2⟩
theorem Val.beqFields_eq : ∀ (xs ys : List (String × Val N)), Val.beqFields xs ys = true → xs = ys
  | [], ys => by cases ys <;> simp [Val.beqFields]
  | (k, x) :: xs, ys => by
    cases ys with
    | nil => simp [Val.beqFields]
    | cons y ys =>
      obtain ⟨l, y⟩ := y
      simp only [Val.beqFields, Bool.and_eq_true, List.cons.injEq, Prod.mk.injEq, beq_iff_eq]
      exact fun h => ⟨⟨h.1.1, Val.beq_eq x y h.1.2⟩, Val.beqFields_eq xs ys h.2⟩
end

mutual
theorem Val.beq_refl : ∀ (a : Val N), Val.beq a a = true
  | .null => by simp [Val.beq]
  | .bool _ => by simp [Val.beq]
  | .num _ => by simp [Val.beq]
  | .str _ => by simp [Val.beq]
  | .arr xs => by simp [Val.beq, Val.beqList_refl xs]
  | .obj fs => by simp [Val.beq, Val.beqFields_refl fs]
theorem Val.beqList_refl : ∀ (xs : List (Val N)), Val.beqList xs xs = true
  | [] => by simp [Val.beqList]
  | x :: xs => by simp [Val.beqList, Val.beq_refl x, Val.beqList_refl xs]
theorem Val.beqFields_refl : ∀ (xs : List (String × Val N)), Val.beqFields xs xs = true
  | [] => by simp [Val.beqFields]
  | (k, x) :: xs => by simp [Val.beqFields, Val.beq_refl x, Val.beqFields_refl xs]
end

instance : DecidableEq (Val N) := fun a b =>
  if h : Val.beq a b = true then isTrue (Val.beq_eq a b h)
  else isFalse (fun e => h (e ▸ Val.beq_refl a))

end Genql

/-
  Genql.Proofs.Loops — the `Except` monad and the loops of `Basic`, `Model/Value` and `Model/Algo` that run in it: `mapE`,
  `filterLoop`, `levelLoop` / `execLevel`, `window`, `keyStep` / `readPath`.  Of each loop: what it returns when every step
  succeeds, that it fails as soon as one step fails, how it distributes over `++`.

  The lemmas are general and stand in `Genql`.  A prefix `C01.`, `C05.`, `C19.` in a name is the namespace of the file that
  first stated the lemma, kept because the checks' theorem lists and DESIGN.md refer to several of these names; it says
  nothing about what the lemma is about.
-/
import Genql.Model.Algo
namespace Genql

def C19.IsError {α : Type} (r : R α) : Prop := ∃ e, r = .error e

open C19 (IsError)

theorem C19.ok_bind {α β : Type} (a : α) (f : α → R β) : ((Except.ok a : R α) >>= f) = f a := rfl

theorem map_ok {α β : Type} (f : α → β) (a : α) : f <$> (.ok a : R α) = .ok (f a) := rfl

instance instDecidableEqExcept {ε α : Type} [DecidableEq ε] [DecidableEq α] : DecidableEq (Except ε α)
  | .ok a, .ok b => if h : a = b then isTrue (by rw [h]) else isFalse (fun e => h (by cases e; rfl))
  | .error a, .error b => if h : a = b then isTrue (by rw [h]) else isFalse (fun e => h (by cases e; rfl))
  | .ok _, .error _ => isFalse (fun e => by cases e)
  | .error _, .ok _ => isFalse (fun e => by cases e)

theorem isError_bind {α β : Type} {x : R α} {f : α → R β} (h : IsError x) : IsError (x >>= f) := by
  obtain ⟨e, rfl⟩ := h; exact ⟨e, rfl⟩

theorem isError_bind_right {α β : Type} {x : R α} {f : α → R β} (h : ∀ a, x = .ok a → IsError (f a)) :
    IsError (x >>= f) := by
  cases x with
  | error e => exact ⟨e, rfl⟩
  | ok a => exact h a rfl

/-- `isError_bind` when the rest of the computation also uses the first result (so that `bind_assoc` does not apply) -/
theorem isError_bind_bind {α β γ : Type} {x : R α} {f : α → R β} {g : α → β → R γ} (h : IsError (x >>= f)) :
    IsError (x >>= fun a => f a >>= g a) := by
  cases x with
  | error e => exact ⟨e, rfl⟩
  | ok a => exact isError_bind (f := g a) h

theorem bind_eq_ok {ε α β : Type} {x : Except ε α} {f : α → Except ε β} {b : β} (h : x >>= f = .ok b) :
    ∃ a, x = .ok a ∧ f a = .ok b := by
  cases x with
  | error e => cases h
  | ok a => exact ⟨a, rfl, h⟩

theorem mapE_cons_ok {ε α β : Type} {f : α → Except ε β} {x : α} {xs : List α} {out : List β}
    (h : mapE f (x :: xs) = .ok out) : ∃ y ys, f x = .ok y ∧ mapE f xs = .ok ys ∧ out = y :: ys := by
  obtain ⟨y, hy, h⟩ := bind_eq_ok h
  obtain ⟨ys, hys, h⟩ := bind_eq_ok h
  exact ⟨y, ys, hy, hys, (Except.ok.inj h).symm⟩

theorem mapE_ok_length {ε α β : Type} {f : α → Except ε β} {xs : List α} {ys : List β}
    (h : mapE f xs = .ok ys) : ys.length = xs.length := by
  induction xs generalizing ys with
  | nil => cases h; rfl
  | cons x xs ih =>
    obtain ⟨y, ys', _, hys, rfl⟩ := mapE_cons_ok h
    rw [List.length_cons, List.length_cons, ih hys]

theorem mapE_ok_get {ε α β : Type} {f : α → Except ε β} {xs : List α} {ys : List β}
    (h : mapE f xs = .ok ys) : ∀ (i : Nat) (hi : i < xs.length) (hj : i < ys.length),
      f xs[i] = .ok ys[i] := by
  induction xs generalizing ys with
  | nil => intro i hi; cases hi
  | cons x xs ih =>
    obtain ⟨y, ys', hy, hys, rfl⟩ := mapE_cons_ok h
    intro i hi hj
    cases i with
    | zero => exact hy
    | succ i => exact ih hys i (Nat.lt_of_succ_lt_succ hi) (Nat.lt_of_succ_lt_succ hj)

theorem mapE_keyed_snd {ε α κ : Type} (f : α → Except ε κ) :
    ∀ (rows : List α) (keyed : List (κ × α)), mapE (fun r => do let ks ← f r; pure (ks, r)) rows = .ok keyed →
      keyed.map (·.2) = rows ∧ ∀ a ∈ keyed, f a.2 = .ok a.1
  | [], keyed, h => by cases h; exact ⟨rfl, fun _ h => nomatch h⟩
  | r :: rows, keyed, h => by
    obtain ⟨y, ys, hy, hys, rfl⟩ := mapE_cons_ok h
    obtain ⟨h1, h2⟩ := mapE_keyed_snd f rows ys hys
    obtain ⟨ks, hks, hy⟩ := bind_eq_ok hy
    cases hy
    exact ⟨congrArg (r :: ·) h1, List.forall_mem_cons.mpr ⟨hks, h2⟩⟩

theorem mapE_congr {ε α β : Type} {f g : α → Except ε β} {xs : List α} (h : ∀ x ∈ xs, f x = g x) :
    mapE f xs = mapE g xs := by
  induction xs with
  | nil => rfl
  | cons x xs ih => rw [mapE, mapE, h x List.mem_cons_self, ih fun y hy => h y (List.mem_cons_of_mem _ hy)]

theorem mapE_eq_map_of_ok {ε α β : Type} {f : α → Except ε β} {g : α → β} {xs : List α}
    (h : ∀ x ∈ xs, f x = .ok (g x)) : mapE f xs = .ok (xs.map g) := by
  induction xs with
  | nil => rfl
  | cons x xs ih => rw [mapE, h x List.mem_cons_self, ih fun y hy => h y (List.mem_cons_of_mem _ hy)]; rfl

theorem C01.mapE_map {ε α β : Type} (g : α → β) (xs : List α) :
    mapE (fun x => (.ok (g x) : Except ε β)) xs = .ok (xs.map g) :=
  mapE_eq_map_of_ok (fun _ _ => rfl)

theorem mapE_flatten {α β : Type} {f : α → R (List β)} {g : α → List β} {xs : List α}
    (h : ∀ x ∈ xs, f x = .ok (g x)) : (do let cs ← mapE f xs; pure cs.flatten) = .ok (xs.flatMap g) := by
  rw [mapE_eq_map_of_ok h]; rfl

theorem mapE_comp {ε α β γ : Type} (f : β → Except ε γ) (h : α → β) (xs : List α) :
    mapE f (xs.map h) = mapE (fun x => f (h x)) xs := by
  induction xs with
  | nil => rfl
  | cons x xs ih => rw [List.map_cons, mapE, mapE, ih]

theorem mapE_append {ε α β : Type} (f : α → Except ε β) (xs ys : List α) :
    mapE f (xs ++ ys) = (do
      let a ← mapE f xs
      let b ← mapE f ys
      pure (a ++ b)) := by
  induction xs with
  | nil => exact (bind_pure _).symm
  | cons x xs ih => simp only [List.cons_append, mapE, ih, bind_assoc, pure_bind]

theorem C19.mapE_error {ε α β : Type} (f : α → Except ε β) (xs : List α) (x : α) (hx : x ∈ xs) (e : ε) (hf : f x = .error e) :
    ∃ e', mapE f xs = .error e' := by
  induction xs with
  | nil => cases hx
  | cons y ys ih =>
    rw [mapE]
    rcases List.mem_cons.mp hx with rfl | hx'
    · rw [hf]; exact ⟨e, rfl⟩
    · obtain ⟨e', he'⟩ := ih hx'
      rw [he']
      cases f y <;> exact ⟨_, rfl⟩

/-- `C19.mapE_error` in the form the proofs use -/
theorem mapE_isError {α β : Type} {f : α → R β} {xs : List α} {x : α} (hx : x ∈ xs) (hf : IsError (f x)) :
    IsError (mapE f xs) :=
  hf.elim (C19.mapE_error f xs x hx)

theorem filterLoop_map {α β : Type} (p : β → R Bool) (h : α → β) (f : α → Bool) (xs : List α)
    (hp : ∀ x ∈ xs, p (h x) = .ok (f x)) : filterLoop p (xs.map h) = .ok ((xs.filter f).map h) := by
  induction xs with
  | nil => rfl
  | cons x xs ih =>
    rw [List.map_cons, filterLoop, hp x List.mem_cons_self, ih fun y hy => hp y (List.mem_cons_of_mem _ hy),
      List.filter_cons]
    cases f x <;> rfl

theorem filterLoop_filter {α : Type} (p : α → R Bool) (f : α → Bool) (xs : List α)
    (h : ∀ x ∈ xs, p x = .ok (f x)) : filterLoop p xs = .ok (xs.filter f) := by
  simpa only [List.map_id] using filterLoop_map p id f xs h

theorem filterLoop_append {α : Type} (p : α → R Bool) (xs ys : List α) :
    filterLoop p (xs ++ ys) = (do
      let a ← filterLoop p xs
      let b ← filterLoop p ys
      pure (a ++ b)) := by
  induction xs with
  | nil => exact (bind_pure _).symm
  | cons x xs ih =>
    simp only [List.cons_append, filterLoop, ih, bind_assoc, pure_bind]
    exact bind_congr fun b => by cases b <;> rfl

theorem C19.filterLoop_error {α : Type} (p : α → R Bool) (xs : List α) (x : α) (hx : x ∈ xs) (hp : IsError (p x)) :
    IsError (filterLoop p xs) := by
  induction xs with
  | nil => cases hx
  | cons y ys ih =>
    rcases List.mem_cons.mp hx with rfl | hx'
    · exact isError_bind hp
    · exact isError_bind_right fun _ _ => isError_bind (ih hx')

section level
variable {N : Type} (wh : List (Val N) → Row N → R Bool) (post : List (Val N) → List (Val N) → R (List (Val N)))

/-- flat table: the loop of `exec()` is `filterLoop` with the WHERE test -/
theorem levelLoop_map_obj (src : List (Val N)) (rows : List (Row N)) :
    levelLoop wh post src (rows.map Val.obj) = (filterLoop (wh src) rows).map (List.map Val.obj) := by
  induction rows with
  | nil => rfl
  | cons r rows ih =>
    rw [List.map_cons, levelLoop, ih, levelElem, filterLoop]
    cases wh src r with
    | error e => rfl
    | ok b => cases filterLoop (wh src) rows <;> cases b <;> rfl

theorem levelLoop_flat (src : List (Val N)) (rows : List (Row N)) (f : Row N → Bool)
    (h : ∀ r ∈ rows, wh src r = .ok (f r)) :
    levelLoop wh post src (rows.map Val.obj) = .ok ((rows.filter f).map Val.obj) := by
  rw [levelLoop_map_obj, filterLoop_filter _ f rows h]; rfl

theorem execLevel_flat (rows : List (Row N)) (f : Row N → Bool)
    (h : ∀ r ∈ rows, wh (rows.map Val.obj) r = .ok (f r)) :
    execLevel wh post (rows.map Val.obj) = post (rows.map Val.obj) ((rows.filter f).map Val.obj) := by
  rw [execLevel, levelLoop_flat wh post _ rows f h]; rfl

theorem execLevel_true (rows : List (Row N)) :
    execLevel (fun _ _ => .ok true) post (rows.map Val.obj) = post (rows.map Val.obj) (rows.map Val.obj) := by
  rw [execLevel_flat _ post rows (fun _ => true) (fun _ _ => rfl), List.filter_eq_self.mpr fun _ _ => rfl]

end level

section
-- `C19.levelLoop_error` takes `[Num N]` without using it, `C19.execLevel_error` only to pass it on; their statements are kept as they stand
set_option linter.unusedSectionVars false
variable {N : Type} [Num N]

theorem C19.levelLoop_error (wh : List (Val N) → Row N → R Bool)
    (post : List (Val N) → List (Val N) → R (List (Val N))) (src : List (Val N))
    (rows : List (Row N)) (r : Row N) (hr : r ∈ rows) (hw : IsError (wh src r)) :
    IsError (levelLoop wh post src (rows.map Val.obj)) := by
  obtain ⟨e, he⟩ := filterLoop_error (wh src) rows r hr hw
  rw [levelLoop_map_obj, he]; exact ⟨e, rfl⟩

theorem C19.execLevel_error (wh : List (Val N) → Row N → R Bool)
    (post : List (Val N) → List (Val N) → R (List (Val N)))
    (rows : List (Row N)) (r : Row N) (hr : r ∈ rows) (hw : IsError (wh (rows.map Val.obj) r)) :
    IsError (execLevel wh post (rows.map Val.obj)) :=
  isError_bind (levelLoop_error wh post _ rows r hr hw)

end

/-- **The window is exact and never fails**: positions `offset .. offset+limit-1` that exist. -/
theorem C05.window_exact {α : Type} (rs : List α) (offset limit : Option Nat) :
    window rs offset limit = .ok ((rs.drop (offset.getD 0)).take (limit.getD rs.length)) := by
  unfold window
  generalize offset.getD 0 = o
  generalize limit.getD rs.length = l
  dsimp only
  by_cases h : o ≥ rs.length
  · rw [if_pos h, List.drop_eq_nil_of_le h, List.take_nil]
  · -- the clamped limit never runs past the end, and `take` does not see the clamping
    rw [if_neg h, if_neg (by split <;> omega)]
    congr 1
    rw [List.take_eq_take_iff, List.length_drop]
    split <;> omega

theorem window_none {α : Type} (rs : List α) : window rs none none = .ok rs := by
  simp [C05.window_exact]

theorem keyStepList_eq_mapE {N : Type} (k : String) (cont : Val N → R (Val N)) :
    ∀ xs, keyStepList k cont xs = mapE (keyStep k cont) xs
  | [] => rfl
  | x :: xs => by rw [keyStepList, mapE, keyStepList_eq_mapE k cont xs]

theorem keyStep_obj {N : Type} (k : String) (cont : Val N → R (Val N)) (fs : Row N) :
    keyStep k cont (.obj fs) = cont (Val.get fs k) := rfl

theorem keyStep_arr {N : Type} (k : String) (cont : Val N → R (Val N)) (xs : List (Val N)) :
    keyStep k cont (.arr xs) = .arr <$> mapE (keyStep k cont) xs := by
  rw [keyStep, keyStepList_eq_mapE]
  cases mapE (keyStep k cont) xs <;> rfl

theorem readPath_single {N : Type} (k : String) (cur : Row N) : readPath [k] (.obj cur) = .ok (Val.get cur k) := by
  simp [readPath, keyStep]

end Genql

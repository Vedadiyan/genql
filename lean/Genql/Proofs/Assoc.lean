/-
  Genql.Proofs.Assoc — association lists (`lookup?`, `setKey`, `delKey`, `copyInto` of `Basic`: the model of Go maps): what a
  key reads after a write, a deletion or a copy, which keys a list has, and that `setKey` keeps keys distinct.

  Prefixes (`C02.`, `C06.`, `ValEqEquiv.`) as in `Proofs/Loops`.
-/
import Genql.Basic
namespace Genql

theorem lookup?_append (k : String) (l l' : List (String × α)) :
    lookup? k (l ++ l') = (match lookup? k l with | some w => some w | none => lookup? k l') := by
  induction l with
  | nil => rfl
  | cons a l ih =>
    obtain ⟨ka, va⟩ := a
    by_cases hka : ka = k <;> simp [lookup?, hka, ih]

theorem mem_of_lookup {α : Type} {k : String} {v : α} {fs : List (String × α)} (h : lookup? k fs = some v) :
    (k, v) ∈ fs := by
  induction fs with
  | nil => cases h
  | cons f fs ih =>
    obtain ⟨k', v'⟩ := f
    rw [lookup?] at h
    split at h
    · next hk => cases h; subst hk; exact List.mem_cons_self
    · exact List.mem_cons_of_mem _ (ih h)

theorem lookup_of_mem {α : Type} {k : String} {v : α} {fs : List (String × α)} (hn : (fs.map (·.1)).Nodup)
    (h : (k, v) ∈ fs) : lookup? k fs = some v := by
  induction fs with
  | nil => cases h
  | cons f fs ih =>
    obtain ⟨k', v'⟩ := f
    simp only [List.map_cons, List.nodup_cons] at hn
    simp only [lookup?]
    rcases List.mem_cons.mp h with he | hm
    · cases he; simp
    · have : k' ≠ k := by
        intro e; subst e
        exact hn.1 (List.mem_map.mpr ⟨(k', v), hm, rfl⟩)
      simp [this, ih hn.2 hm]

theorem ValEqEquiv.lookup_isSome_iff {α : Type} {k : String} {fs : List (String × α)} :
    (lookup? k fs).isSome = true ↔ k ∈ fs.map (·.1) := by
  induction fs with
  | nil => exact ⟨nofun, nofun⟩
  | cons f fs ih =>
    obtain ⟨k', v'⟩ := f
    rw [lookup?, List.map_cons, List.mem_cons, ← ih]
    split
    · next hk => exact ⟨fun _ => .inl hk.symm, fun _ => rfl⟩
    · next hk => exact ⟨.inr, fun h => h.resolve_left fun e => hk e.symm⟩

theorem Val.get_single {N : Type} (k : String) (v : Val N) : Val.get [(k, v)] k = v := by simp [Val.get, lookup?]

@[simp] theorem lookup?_setKey_same (k : String) (v : α) (fs : List (String × α)) :
    lookup? k (setKey k v fs) = some v := by
  induction fs with
  | nil => simp [setKey, lookup?]
  | cons h t ih =>
    obtain ⟨k', v'⟩ := h
    by_cases hk : k' = k <;> simp [setKey, lookup?, hk, ih]

theorem lookup?_setKey_other {k k' : String} (h : k' ≠ k) (v : α) (fs : List (String × α)) :
    lookup? k' (setKey k v fs) = lookup? k' fs := by
  have h' : ¬ k = k' := fun e => h e.symm
  induction fs with
  | nil => simp [setKey, lookup?, h']
  | cons hd t ih =>
    obtain ⟨k1, v1⟩ := hd
    by_cases hk : k1 = k
    · subst hk; simp [setKey, lookup?, h']
    · simp [setKey, lookup?, hk, ih]

theorem setKey_setKey_same {α : Type} (k : String) (v : α) (fs : List (String × α)) :
    setKey k v (setKey k v fs) = setKey k v fs := by
  induction fs with
  | nil => simp [setKey]
  | cons h t ih =>
    obtain ⟨k', v'⟩ := h
    by_cases hk : k' = k <;> simp [setKey, hk, ih]

theorem keys_setKey {α : Type} (k : String) (v : α) (fs : List (String × α)) :
    (setKey k v fs).map (·.1) = if k ∈ fs.map (·.1) then fs.map (·.1) else fs.map (·.1) ++ [k] := by
  induction fs with
  | nil => rfl
  | cons f fs ih =>
    obtain ⟨k', v'⟩ := f
    by_cases hk : k' = k
    · simp [setKey, hk]
    · have : ¬ k = k' := fun e => hk e.symm
      simp only [setKey, hk, if_false, List.map_cons, ih, List.mem_cons, this, false_or]
      split <;> rfl

theorem C06.setKey_nodup {α : Type} (k : String) (v : α) (fs : List (String × α)) (h : (fs.map (·.1)).Nodup) :
    ((setKey k v fs).map (·.1)).Nodup := by
  rw [keys_setKey]
  split
  · exact h
  · rename_i hk
    exact List.nodup_append.mpr ⟨h, by simp, by intro a ha b hb; simp at hb; subst hb; intro e; subst e; exact hk ha⟩

theorem lookup?_delKey_same {α : Type} (k : String) (l : List (String × α)) : lookup? k (delKey k l) = none := by
  induction l with
  | nil => rfl
  | cons h t ih =>
    obtain ⟨k', v⟩ := h
    by_cases hk : k' = k <;> simp [delKey, lookup?, hk, ih]

theorem not_mem_keys_delKey {α : Type} (k : String) (l : List (String × α)) : k ∉ (delKey k l).map (·.1) := by
  rw [← ValEqEquiv.lookup_isSome_iff, lookup?_delKey_same]; nofun

theorem lookup?_delKey_other {α : Type} {k k' : String} (h : k' ≠ k) (l : List (String × α)) :
    lookup? k' (delKey k l) = lookup? k' l := by
  induction l with
  | nil => rfl
  | cons hd t ih =>
    obtain ⟨k1, v⟩ := hd
    by_cases hk : k1 = k
    · subst hk
      have : ¬ k1 = k' := fun e => h e.symm
      simp [delKey, lookup?, ih, this]
    · simp [delKey, lookup?, hk, ih]

/-- `maps.Copy`: the source's entry wins (its last one, should a key occur twice), else the destination's -/
theorem lookup?_copyInto {α : Type} (k : String) (dst src : List (String × α)) :
    lookup? k (copyInto dst src) =
      (match lookup? k src.reverse with
       | some v => some v
       | none => lookup? k dst) := by
  unfold copyInto
  induction src generalizing dst with
  | nil => rfl
  | cons h t ih =>
    obtain ⟨k', v⟩ := h
    rw [List.foldl_cons, ih, List.reverse_cons, lookup?_append]
    cases lookup? k t.reverse with
    | some w => rfl
    | none =>
      by_cases hk : k' = k
      · subst hk; simp [lookup?]
      · have : k ≠ k' := fun e => hk e.symm
        simp [lookup?, hk, lookup?_setKey_other this]

theorem lookup?_copyInto_other {α : Type} {k : String} {src : List (String × α)} (h : k ∉ src.map (·.1))
    (dst : List (String × α)) : lookup? k (copyInto dst src) = lookup? k dst := by
  have : lookup? k src.reverse = none := Option.not_isSome_iff_eq_none.mp
    (mt ValEqEquiv.lookup_isSome_iff.mp (by rwa [List.map_reverse, List.mem_reverse]))
  rw [lookup?_copyInto, this]

section hasKey
variable {N : Type}

/-- the key test as a `Bool`, in which `select_keys` is stated -/
def C02.hasKey (k : String) (l : Row N) : Bool := (lookup? k l).isSome

open C02 (hasKey)

theorem mem_keys_iff (k : String) (l : Row N) : k ∈ l.map (·.1) ↔ hasKey k l = true :=
  ValEqEquiv.lookup_isSome_iff.symm

theorem C02.hasKey_setKey (k k' : String) (v : Val N) (l : Row N) :
    hasKey k' (setKey k v l) = (decide (k' = k) || hasKey k' l) := by
  unfold hasKey
  by_cases h : k' = k
  · subst h; simp
  · simp [lookup?_setKey_other h, h]

theorem C02.hasKey_reverse (k : String) (l : Row N) : hasKey k l.reverse = hasKey k l :=
  Bool.eq_iff_iff.mpr (by rw [← mem_keys_iff, ← mem_keys_iff, List.map_reverse, List.mem_reverse])

theorem C02.hasKey_copyInto (k : String) (dst src : Row N) :
    hasKey k (copyInto dst src) = (hasKey k dst || hasKey k src) := by
  rw [← hasKey_reverse k src]
  unfold hasKey
  rw [lookup?_copyInto]
  cases lookup? k src.reverse <;> simp

end hasKey
end Genql

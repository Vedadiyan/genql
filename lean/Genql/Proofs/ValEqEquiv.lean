/-
  Genql.Proofs.ValEqEquiv — `valEq` (the relation the model's DISTINCT / UNION deduplicate by: structural
  equality with objects compared as maps, what the `%#v` fingerprint of `ExecDistinct` identifies) is an
  equivalence relation on well-formed values (objects with pairwise different keys — what Go maps are,
  and what `setKey` / `copyInto` build).  Without this, the theorems of C06, stated for any
  equivalence `same`, would say nothing about the relation the executable model actually uses.
  The laws go by induction on the value (`Sel.valInduct`): arrays element by element, objects field by field.
-/
import Genql.Model.Eval
import Genql.Lawful
import Genql.Proofs.Assoc
import Genql.Proofs.ValInduct
-- `wf_of_mem_list`, `listEq_iff` take the instance arguments of the `variable` line without using them;
-- their statements are kept as they stand
set_option linter.unusedSectionVars false
namespace Genql.ValEqEquiv
open Genql
variable {N : Type}

mutual
/-- every object inside the value has pairwise different keys -/
def WF : Val N → Prop
  | .arr xs => WFList xs
  | .obj fs => (fs.map (·.1)).Nodup ∧ WFFields fs
  | _ => True
def WFList : List (Val N) → Prop
  | [] => True
  | x :: xs => WF x ∧ WFList xs
def WFFields : List (String × Val N) → Prop
  | [] => True
  | (_, v) :: rest => WF v ∧ WFFields rest
end

theorem wf_of_mem_fields {fs : List (String × Val N)} (h : WFFields fs) {k : String} {v : Val N}
    (hx : (k, v) ∈ fs) : WF v := by
  induction fs with
  | nil => cases hx
  | cons f fs ih =>
    obtain ⟨k', v'⟩ := f
    simp only [WFFields] at h
    rcases List.mem_cons.mp hx with he | hm
    · cases he; exact h.1
    · exact ih h.2 hm

/-- pigeonhole: a duplicate-free list contained in a duplicate-free list of the same length contains it -/
theorem subset_of_nodup_length : ∀ (ks ms : List String), ks.Nodup → ms.Nodup → ks.length = ms.length →
    (∀ k ∈ ks, k ∈ ms) → ∀ m ∈ ms, m ∈ ks
  | [], ms, _, _, hl, _, m, hm => by
    cases List.eq_nil_of_length_eq_zero hl.symm
    exact hm
  | k :: ks, ms, hk, hm, hl, hsub, m, hmm => by
    obtain ⟨hk1, hk2⟩ := List.nodup_cons.mp hk
    have hkm : k ∈ ms := hsub k List.mem_cons_self
    by_cases hmk : m = k
    · exact hmk ▸ List.mem_cons_self
    · refine List.mem_cons_of_mem _ (subset_of_nodup_length ks (ms.erase k) hk2 (hm.erase k) ?_ (fun x hx => ?_) m
        ((List.mem_erase_of_ne hmk).mpr hmm))
      · rw [List.length_erase_of_mem hkm, ← hl]; rfl
      · exact (List.mem_erase_of_ne fun (e : x = k) => hk1 (e ▸ hx)).mpr (hsub x (List.mem_cons_of_mem _ hx))

variable [Num N]

theorem valEq_obj (fs gs : List (String × Val N)) :
    valEq (.obj fs) (.obj gs) = (fs.length == gs.length && objSub fs gs) := rfl

theorem objSub_iff (fs gs : List (String × Val N)) :
    objSub fs gs = true ↔ ∀ kv ∈ fs, ∃ w, lookup? kv.1 gs = some w ∧ valEq kv.2 w = true := by
  induction fs with
  | nil => simp [objSub]
  | cons f fs ih =>
    obtain ⟨k, v⟩ := f
    simp only [objSub, Bool.and_eq_true, ih, List.mem_cons, forall_eq_or_imp]
    constructor
    · rintro ⟨h1, h2⟩
      refine ⟨?_, h2⟩
      cases hl : lookup? k gs with
      | none => simp [hl] at h1
      | some w => simp [hl] at h1; exact ⟨w, rfl, h1⟩
    · rintro ⟨⟨w, hw, hv⟩, h2⟩
      exact ⟨by simp [hw, hv], h2⟩

theorem listEq_refl {xs : List (Val N)} (h : ∀ x ∈ xs, valEq x x = true) : listEq xs xs = true := by
  induction xs with
  | nil => rfl
  | cons x xs ih =>
    rw [listEq, h x List.mem_cons_self, ih fun y hy => h y (List.mem_cons_of_mem _ hy)]; rfl

theorem listEq_trans {xs : List (Val N)}
    (h : ∀ x ∈ xs, ∀ b c, valEq x b = true → valEq b c = true → valEq x c = true) :
    ∀ ys zs, listEq xs ys = true → listEq ys zs = true → listEq xs zs = true := by
  induction xs with
  | nil => intro ys zs h1 h2; cases ys with | nil => exact h2 | cons => cases h1
  | cons x xs ih =>
    intro ys zs h1 h2
    cases ys with
    | nil => cases h1
    | cons y ys =>
      cases zs with
      | nil => cases h2
      | cons z zs =>
        rw [listEq, Bool.and_eq_true] at h1 h2 ⊢
        exact ⟨h x List.mem_cons_self y z h1.1 h2.1,
          ih (fun x hx => h x (List.mem_cons_of_mem _ hx)) ys zs h1.2 h2.2⟩

theorem listEq_symm {xs : List (Val N)} (h : ∀ x ∈ xs, ∀ b, WF x → WF b → valEq x b = true → valEq b x = true) :
    ∀ ys, WFList xs → WFList ys → listEq xs ys = true → listEq ys xs = true := by
  induction xs with
  | nil => intro ys _ _ h1; cases ys with | nil => rfl | cons => cases h1
  | cons x xs ih =>
    intro ys w1 w2 h1
    cases ys with
    | nil => cases h1
    | cons y ys =>
      rw [listEq, Bool.and_eq_true] at h1 ⊢
      exact ⟨h x List.mem_cons_self y w1.1 w2.1 h1.1,
        ih (fun x hx => h x (List.mem_cons_of_mem _ hx)) ys w1.2 w2.2 h1.2⟩

variable [LawfulNum N]

theorem wf_of_mem_list {xs : List (Val N)} (h : WFList xs) {x : Val N} (hx : x ∈ xs) : WF x := by
  induction xs with
  | nil => cases hx
  | cons y ys ih =>
    simp only [WFList] at h
    rcases List.mem_cons.mp hx with rfl | hm
    · exact h.1
    · exact ih h.2 hm

theorem listEq_iff (xs ys : List (Val N)) :
    listEq xs ys = true ↔ xs.length = ys.length ∧ ∀ p ∈ xs.zip ys, valEq p.1 p.2 = true := by
  induction xs generalizing ys with
  | nil => cases ys <;> simp [listEq]
  | cons x xs ih =>
    cases ys with
    | nil => simp [listEq]
    | cons y ys =>
      simp only [listEq, Bool.and_eq_true, ih, List.length_cons, List.zip_cons_cons, List.mem_cons, forall_eq_or_imp]
      constructor
      · rintro ⟨h1, h2, h3⟩; exact ⟨by omega, h1, h3⟩
      · rintro ⟨h1, h2, h3⟩; exact ⟨h2, by omega, h3⟩

theorem valEq_cases {a b : Val N} (h : valEq a b = true) :
    a = b ∨ (∃ xs ys, a = .arr xs ∧ b = .arr ys ∧ listEq xs ys = true) ∨
    (∃ fs gs, a = .obj fs ∧ b = .obj gs ∧ fs.length = gs.length ∧ objSub fs gs = true) := by
  -- two different constructors: `h` is `false = true`
  cases a <;> cases b <;> first | cases h | skip
  case null.null => exact .inl rfl
  case bool.bool => exact .inl (congrArg _ (eq_of_beq h))
  case num.num => exact .inl (congrArg _ ((LawfulNum.eq_iff _ _).mp h))
  case str.str => exact .inl (congrArg _ (eq_of_beq h))
  case arr.arr => exact .inr (.inl ⟨_, _, rfl, rfl, h⟩)
  case obj.obj =>
    rw [valEq_obj, Bool.and_eq_true, beq_iff_eq] at h
    exact .inr (.inr ⟨_, _, rfl, rfl, h⟩)

/-- on well-formed values only: of a key that occurs twice `lookup?` finds the first entry, whatever the second holds -/
theorem valEq_refl (a : Val N) (h : WF a) : valEq a a = true := by
  induction a using Sel.valInduct with
  | hnull => rfl
  | hbool b => exact beq_self_eq_true b
  | hnum x => exact (LawfulNum.eq_iff x x).mpr rfl
  | hstr s => exact beq_self_eq_true s
  | harr xs ih => exact listEq_refl fun x hx => ih x hx (wf_of_mem_list h hx)
  | hobj fs ih =>
    rw [valEq_obj, beq_self_eq_true, Bool.true_and, objSub_iff]
    exact fun kv hkv => ⟨kv.2, lookup_of_mem h.1 hkv, ih kv hkv (wf_of_mem_fields h.2 hkv)⟩

theorem valEq_trans (a b c : Val N) (h1 : valEq a b = true) (h2 : valEq b c = true) : valEq a c = true := by
  induction a using Sel.valInduct generalizing b c
  case harr xs ih =>
    obtain h | ⟨_, ys, h, rfl, l1⟩ | ⟨_, _, h, -⟩ := valEq_cases h1 <;> cases h
    · exact h2
    · obtain h | ⟨_, zs, h, rfl, l2⟩ | ⟨_, _, h, -⟩ := valEq_cases h2 <;> cases h
      · exact h1
      · exact listEq_trans ih _ _ l1 l2
  case hobj fs ih =>
    obtain h | ⟨_, _, h, -⟩ | ⟨_, gs, h, rfl, hl1, s1⟩ := valEq_cases h1 <;> cases h
    · exact h2
    · obtain h | ⟨_, _, h, -⟩ | ⟨_, hs, h, rfl, hl2, s2⟩ := valEq_cases h2 <;> cases h
      · exact h1
      · rw [valEq_obj, hl1, hl2, beq_self_eq_true, Bool.true_and]
        rw [objSub_iff] at s1 s2 ⊢
        intro kv hkv
        obtain ⟨w, hw, hvw⟩ := s1 kv hkv
        obtain ⟨u, hu, hwu⟩ := s2 (kv.1, w) (mem_of_lookup hw)
        exact ⟨u, hu, ih kv hkv w u hvw hwu⟩
  all_goals
    obtain h | ⟨_, _, h, -⟩ | ⟨_, _, h, -⟩ := valEq_cases h1 <;> cases h
    exact h2

/-- symmetry (on well-formed values: both objects must have pairwise different keys) -/
theorem valEq_symm (a b : Val N) (ha : WF a) (hb : WF b) (h : valEq a b = true) : valEq b a = true := by
  induction a using Sel.valInduct generalizing b
  case harr xs ih =>
    obtain e | ⟨_, ys, e, rfl, l⟩ | ⟨_, _, e, -⟩ := valEq_cases h <;> cases e
    · exact h
    · exact listEq_symm ih _ ha hb l
  case hobj fs ih =>
    obtain e | ⟨_, _, e, -⟩ | ⟨_, gs, e, rfl, hl, hs⟩ := valEq_cases h <;> cases e
    · exact h
    rw [valEq_obj, hl, beq_self_eq_true, Bool.true_and]
    rw [objSub_iff] at hs ⊢
    intro kv' hkv'
    -- every key of `fs` is a key of `gs`; both are duplicate free and equally long, so the converse holds too
    have hkeys : ∀ k ∈ fs.map (·.1), k ∈ gs.map (·.1) := fun k hk => by
      obtain ⟨kv, hkv, rfl⟩ := List.mem_map.mp hk
      obtain ⟨w, hw, _⟩ := hs kv hkv
      exact List.mem_map.mpr ⟨(kv.1, w), mem_of_lookup hw, rfl⟩
    obtain ⟨kv, hkv, hke⟩ := List.mem_map.mp (subset_of_nodup_length _ _ ha.1 hb.1
      (by rw [List.length_map, List.length_map, hl]) hkeys kv'.1 (List.mem_map_of_mem hkv'))
    obtain ⟨w, hw, hvw⟩ := hs kv hkv
    have hw' : lookup? kv.1 gs = some kv'.2 := hke ▸ lookup_of_mem hb.1 hkv'
    cases hw.symm.trans hw'
    exact ⟨kv.2, hke ▸ lookup_of_mem ha.1 hkv,
      ih kv hkv kv'.2 (wf_of_mem_fields ha.2 hkv) (wf_of_mem_fields hb.2 hkv') hvw⟩
  all_goals
    obtain e | ⟨_, _, e, -⟩ | ⟨_, _, e, -⟩ := valEq_cases h <;> cases e
    exact h

theorem valEq_comm (a b : Val N) (ha : WF a) (hb : WF b) : valEq a b = valEq b a :=
  Bool.eq_iff_iff.mpr ⟨valEq_symm a b ha hb, valEq_symm b a hb ha⟩

end Genql.ValEqEquiv

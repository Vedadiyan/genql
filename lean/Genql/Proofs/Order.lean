/-
  Genql.Proofs.Order — on scalars of one kind (numbers or strings) `ltV` is a strict total order and
  `compare.Compare` returns its sign.
-/
import Genql.Proofs.Pred
namespace Genql
variable {N : Type} [Num N]

/-- total version of `compareVal` (0 where the model has no answer) -/
def cmpK (a b : Val N) : Int :=
  match compareVal a b with
  | .ok c => c
  | .error _ => 0

/-- kinds on which ORDER BY is claimed -/
def Sortable (κ : Kind) : Prop := κ = .num ∨ κ = .str

theorem Sortable.ne_bool {κ : Kind} (h : Sortable κ) : κ ≠ .bool := by
  rcases h with h | h <;> subst h <;> decide

theorem ltV_cases {a b : Val N} (h : ltV a b = true) :
    (∃ x y, a = .num x ∧ b = .num y ∧ Num.lt x y = true) ∨ (∃ x y, a = .str x ∧ b = .str y ∧ x < y) :=
  match a, b, h with
  | .num x, .num y, h => .inl ⟨x, y, rfl, rfl, h⟩
  | .str x, .str y, h => .inr ⟨x, y, rfl, rfl, of_decide_eq_true h⟩

variable [LawfulNum N]

theorem cmpK_cases {a b : Val N} {κ : Kind} (hκ : Sortable κ) (ha : kindOf a = some κ) (hb : kindOf b = some κ) :
    compareVal a b = .ok (cmpK a b) ∧
    ((cmpK a b = 0 ∧ ltV a b = false ∧ ltV b a = false) ∨ (cmpK a b = -1 ∧ ltV a b = true ∧ ltV b a = false) ∨
     (cmpK a b = 1 ∧ ltV a b = false ∧ ltV b a = true)) := by
  rcases compare_trichotomy hκ.ne_bool ha hb with ⟨-, hl, hg, hc⟩ | ⟨-, hl, hg, hc⟩ | ⟨-, hl, hg, hc⟩ <;>
    simp [cmpK, hc, hl, hg]

theorem eqV_iff {a b : Val N} {κ : Kind} (hκ : Sortable κ) (ha : kindOf a = some κ) (hb : kindOf b = some κ) :
    eqV a b = true ↔ a = b := by
  rcases hκ with rfl | rfl
  · obtain ⟨x, rfl⟩ := num_of_kind ha
    obtain ⟨y, rfl⟩ := num_of_kind hb
    exact (LawfulNum.eq_iff x y).trans ⟨congrArg _, Val.num.inj⟩
  · obtain ⟨x, rfl⟩ := str_of_kind ha
    obtain ⟨y, rfl⟩ := str_of_kind hb
    exact beq_iff_eq.trans ⟨congrArg _, Val.str.inj⟩

theorem ltV_irrefl {a : Val N} : ltV a a = false := by
  cases a <;> simp [ltV, LawfulNum.lt_irrefl, String.lt_irrefl]

theorem ltV_trans {a b c : Val N} (h1 : ltV a b = true) (h2 : ltV b c = true) : ltV a c = true := by
  rcases ltV_cases h1 with ⟨x, y, rfl, rfl, hxy⟩ | ⟨x, y, rfl, rfl, hxy⟩ <;>
    rcases ltV_cases h2 with ⟨_, z, h, rfl, hyz⟩ | ⟨_, z, h, rfl, hyz⟩ <;> cases h
  · exact LawfulNum.lt_trans _ _ _ hxy hyz
  · exact decide_eq_true (String.lt_trans hxy hyz)

theorem ltV_asymm {a b : Val N} (h1 : ltV a b = true) : ltV b a = false := by
  rcases ltV_cases h1 with ⟨x, y, rfl, rfl, hxy⟩ | ⟨x, y, rfl, rfl, hxy⟩
  · exact LawfulNum.lt_asymm _ _ hxy
  · exact decide_eq_false (String.lt_asymm hxy)

theorem ltV_total {a b : Val N} {κ : Kind} (hκ : Sortable κ) (ha : kindOf a = some κ) (hb : kindOf b = some κ) :
    ltV a b = true ∨ a = b ∨ ltV b a = true := by
  rcases compare_trichotomy hκ.ne_bool ha hb with ⟨he, -⟩ | ⟨-, hl, -⟩ | ⟨-, -, hg, -⟩
  · exact .inr (.inl ((eqV_iff hκ ha hb).mp he))
  · exact .inl hl
  · exact .inr (.inr hg)

end Genql

/-
  Property C11 — queries never modify the caller's input document.

  `input_frame`: an evaluation whose writes all target memory it allocated itself leaves every cell
  of the input exactly as it was — after the whole run AND after every prefix of it (so also at any
  point where evaluation fails part-way through).  That the Go code has this discipline is the
  regenerated write-site obligation (Genql/Obligations/C11.lean).
-/
import Genql.Model.Heap
namespace Genql.C11
open Genql.Heap

theorem step_spec (h : Heap) (op : HOp) : h.next ≤ (step h op).next ∧
    ∀ a, op.target ≠ some a → a ≠ h.next → (step h op).objs a = h.objs a := by
  fun_cases step h op
  case case1 o => exact ⟨Nat.le_succ _, fun a _ hn => if_neg hn⟩
  -- the four writes whose target holds an object of the kind they write to
  case case2 b _ _ _ _ | case4 b _ _ _ | case6 b _ _ _ _ | case8 b _ _ _ =>
    exact ⟨Nat.le_refl _, fun a ht _ => if_neg fun (e : a = b) => ht (e ▸ rfl)⟩
  all_goals exact ⟨Nat.le_refl _, fun _ _ _ => rfl⟩

theorem step_frame (h : Heap) (op : HOp) (base : Nat) (hb : base ≤ h.next)
    (hd : Disciplined base [op] = true) (a : Nat) (ha : a < base) : (step h op).objs a = h.objs a := by
  refine (step_spec h op).2 a (fun e => ?_) (Nat.ne_of_lt (Nat.lt_of_lt_of_le ha hb))
  simp [Disciplined, e] at hd
  exact Nat.lt_irrefl _ (Nat.lt_of_lt_of_le ha hd)

theorem disciplined_of_subset {base : Nat} {ops ops' : List HOp} (hs : ops' ⊆ ops)
    (hd : Disciplined base ops = true) : Disciplined base ops' = true :=
  List.all_eq_true.2 fun op h => List.all_eq_true.1 hd op (hs h)

/-- The frame below any `base` that is not above the first free address: `next` moves as the evaluation allocates,
    the input's end does not. -/
theorem frame_below (h : Heap) (ops : List HOp) (base : Nat) (hb : base ≤ h.next)
    (hd : Disciplined base ops = true) (a : Nat) (ha : a < base) : (run h ops).objs a = h.objs a := by
  induction ops generalizing h with
  | nil => rfl
  | cons op ops ih =>
    rw [run, ih (step h op) (Nat.le_trans hb (step_spec h op).1) (disciplined_of_subset (List.subset_cons_self op ops) hd)]
    exact step_frame h op base hb (disciplined_of_subset (List.cons_subset_cons op (List.nil_subset ops)) hd) a ha

/-- **input frame**: every address that existed before the query (`< base = h₀.next`) holds exactly
    what it held, whatever the (disciplined) evaluation did -/
theorem input_frame (h₀ : Heap) (ops : List HOp) (hd : Disciplined h₀.next ops = true) :
    ∀ a, a < h₀.next → (run h₀ ops).objs a = h₀.objs a :=
  frame_below h₀ ops h₀.next (Nat.le_refl _) hd

/-- … and at **every crash point**: the same holds after every prefix of the evaluation, i.e. also
    when `New`/`Exec` return an error part-way through -/
theorem input_frame_every_prefix (h₀ : Heap) (ops : List HOp) (hd : Disciplined h₀.next ops = true)
    (n : Nat) : ∀ a, a < h₀.next → (run h₀ (ops.take n)).objs a = h₀.objs a :=
  input_frame h₀ _ (disciplined_of_subset (List.take_subset n ops) hd)

/-- `input_frame` read from the result: what a cell of the input holds after the run it held before, so it points
    where it pointed, in particular not to memory allocated by the query -/
theorem no_new_reference (h₀ : Heap) (ops : List HOp) (hd : Disciplined h₀.next ops = true)
    (a : Nat) (ha : a < h₀.next) (o : Obj) (ho : (run h₀ ops).objs a = some o) : h₀.objs a = some o := by
  rw [← input_frame h₀ ops hd a ha]; exact ho

/-- the discipline is necessary: one write to an input address (the pinned tree's
    `current["<-"] = query.data`) changes the input and creates a reference into it -/
example :
    let h₀ : Heap := { next := 1, objs := fun a => if a = 0 then some (.map [("k", .scalar "v")]) else none }
    (run h₀ [.setKey 0 "<-" (.ref 0)]).objs 0 = some (.map [("k", .scalar "v"), ("<-", .ref 0)]) ∧
    Disciplined h₀.next [.setKey 0 "<-" (.ref 0)] = false := by
  constructor
  · rfl
  · decide

/-- non-vacuity: the repaired shape (clone, then write into the clone) is disciplined -/
example : Disciplined 1 [.read 0, .alloc (.map [("k", .scalar "v")]), .setKey 1 "<-" (.ref 0), .read 1] = true := by decide +kernel

end Genql.C11

/-
  Property C18 — built-in functions obey their contracts for all arguments.
  (Codec round trips, DECODE∘ENCODE and HASH laws are in `Genql.Properties.C18Codec`, same namespace.)
-/
import Genql.Proofs.Eval
import Genql.Inst.IntNum
namespace Genql.C18
open Genql
variable {N : Type} [Num N]

/-- the call as the engine performs it once the arguments are evaluated (`Defects.none`) -/
abbrev call (name : String) (args : List (Val N)) : R (IVal N) :=
  callBuiltin false name none 0 args

theorem first_spec (xs : List (Val N)) :
    call "first" [.arr xs] = .ok (.v (xs.head?.getD .null)) ∧ call (N := N) "first" [.null] = .ok (.v .null) :=
  ⟨rfl, rfl⟩

theorem last_spec (xs : List (Val N)) :
    call "last" [.arr xs] = .ok (.v (xs.getLast?.getD .null)) ∧ call (N := N) "last" [.null] = .ok (.v .null) :=
  ⟨rfl, rfl⟩

/-- `ELEMENTAT(arr, i)` = `arr[i]` for an index inside the array -/
theorem elementAt_spec (xs : List (Val N)) (n : N) (i : Nat) (hi : Num.toInt? n = some (i : Int)) (x : Val N)
    (hx : xs[i]? = some x) : call "elementat" [.arr xs, .num n] = .ok (.v x) := by
  simp [callBuiltin_elementat, hi, hx]

/-- an index outside the array (negative, or ≥ length) is an error -/
theorem elementAt_out_of_range (xs : List (Val N)) (n : N) (k : Int) (hk : Num.toInt? n = some k)
    (h : k < 0 ∨ xs.length ≤ k.toNat) : call "elementat" [.arr xs, .num n] = .error .error := by
  rw [call, callBuiltin_elementat, hk]
  rcases h with h | h
  · simp [h]
  · simp [List.getElem?_eq_none h]

/-- UNWIND flattens exactly one level: inner arrays are spliced, everything else is kept -/
theorem unwind_one_level (xs : List (Val N)) :
    call "unwind" [.arr xs] = .ok (.v (.arr (unwindOne xs))) ∧
    unwindOne xs = xs.flatMap (fun x => match x with | .arr ys => ys | x => [x]) := by
  refine ⟨rfl, ?_⟩
  · induction xs with
    | nil => rfl
    | cons x xs ih => cases x <;> simp [unwindOne, ih]

theorem array_id (xs : List (Val N)) : call "array" xs = .ok (.v (.arr xs)) :=
  (callBuiltin_unguarded arityOf_array).trans (callBody_array ..)

/-- NULL arguments contribute nothing to CONCAT (as the property states it) -/
theorem concat_nonnull (xs : List (Val N)) :
    concatVals false xs = concatVals false (xs.filter (fun x => !x.isNull)) := by
  induction xs with
  | nil => rfl
  | cons x xs ih =>
    cases x with
    | null => exact (concatVals_null xs).trans ih
    | _ => rw [List.filter_cons_of_pos rfl, concatVals_cons rfl, concatVals_cons rfl, ih]

/-- nested to the right like `concatVals` (`String.join` folds from the left) -/
def joinStr : List String → String
  | [] => ""
  | s :: ss => s ++ joinStr ss

/-- … and on NULL-free arguments CONCAT joins their textual forms in order -/
theorem concat_texts (b : Bool) (xs : List (Val N)) (h : ∀ x ∈ xs, x.isNull = false) (ss : List String)
    (hs : xs.map fmtV = ss.map some) : concatVals b xs = .ok (joinStr ss) := by
  induction xs generalizing ss with
  | nil => cases ss <;> simp_all [concatVals, joinStr]
  | cons x xs ih =>
    cases ss with
    | nil => simp at hs
    | cons t ts =>
      simp only [List.map_cons, List.cons.injEq] at hs
      rw [concatVals_cons (h x (by simp)), fmtR_of_fmtV hs.1, ih (fun y hy => h y (by simp [hy])) ts hs.2]
      rfl

/-- the open finding: with the as-is switch a NULL argument prints as `<nil>` -/
theorem concat_nil_witness :
    concatVals (N := Int) true [.str "a", .null, .str "b"] = .ok "a<nil>b" ∧
    concatVals (N := Int) false [.str "a", .null, .str "b"] = .ok "ab" := by
  constructor <;> rfl

theorem if_spec (x y : Val N) :
    call "if" [.bool true, x, y] = .ok (.v x) ∧ call "if" [.bool false, x, y] = .ok (.v y) :=
  ⟨rfl, rfl⟩

/-- DATERANGE(f, t) = [f, t] as texts, for non-NULL bounds (a NULL bound is the empty text: `dateBound`) -/
theorem daterange_spec (f t : Val N) (fs ts : String) (hf : fmtV f = some fs) (ht : fmtV t = some ts)
    (hfn : f.isNull = false) (htn : t.isNull = false) :
    call "daterange" [f, t] = .ok (.v (.arr [.str fs, .str ts])) := by
  rw [call, callBuiltin_guarded arityOf_daterange, callBody_daterange, dateBound_of_fmtV hf hfn,
    dateBound_of_fmtV ht htn]
  rfl

/-- only for the strings of `caseModelled`: ASCII and the CJK ideographs U+4E00–9FFF -/
theorem lower_upper_ascii (s : String) (hs : caseModelled s = true) :
    call (N := N) "to_lower" [.str s] = .ok (.v (.str (String.ofList (s.toList.map Char.toLower)))) ∧
    call (N := N) "to_upper" [.str s] = .ok (.v (.str (String.ofList (s.toList.map Char.toUpper)))) := by
  have hl : call (N := N) "to_lower" [.str s] =
      if caseModelled s then .ok (.v (.str (lowerStr s))) else .error .oom := rfl
  have hu : call (N := N) "to_upper" [.str s] =
      if caseModelled s then .ok (.v (.str (upperStr s))) else .error .oom := rfl
  rw [hl, hu, hs]
  exact ⟨rfl, rfl⟩

/-- the hypothesis is satisfiable by non-trivial strings, and refuses what Go's Unicode tables decide -/
example : caseModelled "MiXed 世 123" = true ∧ caseModelled "Wörld" = false := by decide +kernel

theorem changetype_array (x : Val N) (hx : x.isNull = false) :
    call "changetype" [x, .str "array"] = .ok (.v (.arr [x])) :=
  (callBuiltin_guarded arityOf_changetype).trans (callBody_changetype_array hx (by decide +kernel))

theorem changetype_string (x : Val N) (hx : x.isNull = false) (s : String) (hs : fmtV x = some s) :
    call "changetype" [x, .str "string"] = .ok (.v (.str s)) := by
  rw [call, callBuiltin_guarded arityOf_changetype, callBody_changetype_string hx (by decide +kernel),
    fmtR_of_fmtV hs]
  rfl

/-- every function of the arity table (19 names; `Obligations/C18` compares it with Go's `Guard` calls) rejects a
    wrong argument count with an error -/
theorem arity_guard (name : String) (n : Nat) (h : arityOf name = some n) (args : List (Val N))
    (hlen : args.length ≠ n) : call name args = .error .error := by
  simp [call, callBuiltin, h, hlen]

/-- non-vacuity: e.g. ELEMENTAT takes exactly two arguments -/
example : arityOf "elementat" = some 2 ∧ arityOf "if" = some 3 ∧ arityOf "concat" = none := by decide +kernel

/-- CONSTANT(k) returns the configured constant; an unknown key or no constants at all is an error -/
theorem constant_lookup (env : Env N) (ctx : Ctx N) (cur : Row N) (k : String) :
    evalExpr env ctx cur (.func .none "constant" [.str k]) =
      (match env.constants with
       | some cs => (match lookup? k cs with
          | some v => .ok (.v v)
          | none => .error .error)
       | none => .error .error) := by
  rw [evalExpr_func env ctx cur (.inl rfl)]
  cases env.constants with
  | none => rfl
  | some cs => cases lookup? k cs <;> rfl

end Genql.C18

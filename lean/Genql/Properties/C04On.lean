/-
  C04: what the ON condition of a join is evaluated on.  `JoinMatchFunc` evaluates ON once per pair of key
  groups, on the union of the two key maps (`{"x.a": va, "y.b": vb}`), with *hard-coded reads*: a column
  reference `x.a` is looked up under the flat key `"x.a"`.  On the predicate fragment (comparisons, BETWEEN,
  IS, AND / OR / NOT over columns and literals) this is ordinary evaluation of the same predicate with every
  column name flattened — so by C01's `evalPred_sound` ON has exactly its SQL truth value on the key map, and
  the option that selects hard-coded reads provably reaches every operand of AND / OR / NOT.
-/
import Genql.Properties.C01
namespace Genql.C04
open Genql Genql.C01
variable {N : Type} [Num N] [LawfulNum N]

/-- the predicate fragment ON conditions are written in -/
inductive OnFrag : Expr N → Prop where
  | bool (b : Bool) : OnFrag (.bool b)
  | num (n : N) : OnFrag (.num n)
  | str (s : String) : OnFrag (.str s)
  | null : OnFrag .null
  | col (p : List String) : OnFrag (.col p)
  | and {a b} : OnFrag a → OnFrag b → OnFrag (.and a b)
  | or {a b} : OnFrag a → OnFrag b → OnFrag (.or a b)
  | not {a} : OnFrag a → OnFrag (.not a)
  | cmp (op : CmpOp) {a b} : OnFrag a → OnFrag b → OnFrag (.cmp op a b)
  | between (isB : Bool) {x lo hi} : OnFrag x → OnFrag lo → OnFrag hi → OnFrag (.between isB x lo hi)
  | is (op : IsOp) {a} : OnFrag a → OnFrag (.is op a)

/-- every column name flattened to one key (`x.a` ↦ the key `"x.a"`) -/
def flat : Expr N → Expr N
  | .col p => .col [".".intercalate p]
  | .and a b => .and (flat a) (flat b)
  | .or a b => .or (flat a) (flat b)
  | .not a => .not (flat a)
  | .cmp op a b => .cmp op (flat a) (flat b)
  | .between isB x lo hi => .between isB (flat x) (flat lo) (flat hi)
  | .is op a => .is op (flat a)
  | e => e

/-- the two contexts: ON's (hard-coded reads) and an ordinary one -/
def onCtx (data : Row N) : Ctx N := { data := data, hard := true, grouped := false, matched := [], fromLen := 0 }
def plainCtx (data : Row N) : Ctx N := { data := data, hard := false, grouped := false, matched := [], fromLen := 0 }

-- `[LawfulNum N]` of the `variable` line is not used; the statement is kept as it stands
set_option linter.unusedSectionVars false in
/-- **hard-coded reads = flattened column names**, on the whole predicate fragment and for every row -/
theorem hard_eq_flat (env : Env N) (data : Row N) {e : Expr N} (h : OnFrag e) :
    ∀ cur : Row N, evalExpr env (onCtx data) cur e = evalExpr env (plainCtx data) cur (flat e) := by
  induction h with
  | bool b => intro cur; rfl
  | num n => intro cur; rfl
  | str s => intro cur; rfl
  | null => intro cur; rfl
  | col p => intro cur; rfl
  | and _ _ iha ihb => intro cur; rw [flat, evalExpr_and, evalExpr_and, iha, ihb]
  | or _ _ iha ihb => intro cur; rw [flat, evalExpr_or, evalExpr_or, iha, ihb]
  | not _ iha => intro cur; rw [flat, evalExpr_not, evalExpr_not, iha]
  | cmp op _ _ iha ihb => intro cur; rw [flat, evalExpr_cmp, evalExpr_cmp, iha, ihb]; rfl
  | between isB _ _ _ ihx ihl ihh => intro cur; rw [flat, evalExpr_between, evalExpr_between, ihx, ihl, ihh]
  | is op _ iha => intro cur; rw [flat, evalExpr_is, evalExpr_is, iha]

/-- **ON has its SQL truth value on the key map**: for an ON condition of the fragment whose flattened form is
    well typed on the merged key map, the nested loop's test returns exactly `sem` — never an error -/
theorem on_sound (env : Env N) (data km : Row N) {on : Expr N} (h : OnFrag on) (hwt : WT km (flat on)) :
    (do rawBool (← evalExpr env (onCtx data) km on)) = .ok (sem km (flat on)) := by
  rw [hard_eq_flat env data h km, evalPred_sound env (plainCtx data) rfl km (flat on) hwt]
  rfl

/-- in particular AND: both conjuncts are read with the flattened names -/
theorem on_and_sound (env : Env N) (data km : Row N) {a b : Expr N} (ha : OnFrag a) (hb : OnFrag b)
    (hwa : WT km (flat a)) (hwb : WT km (flat b)) :
    (do rawBool (← evalExpr env (onCtx data) km (.and a b))) = .ok (sem km (flat a) && sem km (flat b)) :=
  on_sound env data km (.and ha hb) (.and hwa hwb)

end Genql.C04

namespace Genql.C04
open Genql
variable {N : Type} [Num N]
/-- **outside the predicate fragment**: a function call drops the hard-coded read for its arguments (`FunExpr` calls
    `FuncArgReader` without the expression options), so inside ON a column written as an argument of a function is read as
    an ordinary path on the merged key map — where it is absent, i.e. NULL.  The model mirrors this; C04's grammar (boolean
    combinations of column-to-column comparisons) has no function calls, and no listed property speaks about them in ON. -/
theorem func_args_read_as_paths (env : Env N) (ctx : Ctx N) (cur : Row N) (name : String) (args : List (Expr N)) :
    evalExpr env ctx cur (.func .none name args) = evalExpr env { ctx with hard := false } cur (.func .none name args) :=
  rfl
end Genql.C04

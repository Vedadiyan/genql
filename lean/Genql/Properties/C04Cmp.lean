/-
  C04 capstone for the nested-loop path of the executable model: a join of two aliased tables on ONE comparison
  `x.a op y.b` (op ∈ ≠ < ≤ > ≥, so the hash path does not apply) returns a permutation of the textbook join
  whose condition is the SQL comparison of the two column values — INNER, and LEFT OUTER with NULL padding.

  Everything between the two ends is unfolded: column extraction from ON, the catalogues keyed by the
  length-prefixed `%v` text, ON evaluated once per pair of key groups with hard-coded reads on the merged key
  map, the pairing loops.  The one assumption about values: within each key column, equal `%v` texts mean equal
  values (true of Go's `%v` within one scalar kind; it is what makes "one evaluation per key group" sound).
-/
import Genql.Properties.C04On
import Genql.Properties.C04Model
import Genql.Proofs.KeyText
import Std.Data.String.ToInt
namespace Genql.C04
open Genql Genql.C01
variable {N : Type}

/-- a row of the aliased table `alias` -/
def wrap (alias : String) (r : Row N) : Val N := .obj [(alias, .obj r)]

theorem allObj_wrap (alias : String) (rows : List (Row N)) : AllObj (rows.map (wrap alias)) :=
  List.forall_mem_map.mpr fun _ _ => ⟨_, rfl⟩

/-- the key column's value of an aliased row -/
def colOf (alias c : String) (row : Val N) : Val N :=
  match row with
  | .obj fs => (match Val.get fs alias with | .obj r => Val.get r c | _ => .null)
  | _ => .null

theorem colOf_wrap (alias c : String) (r : Row N) : colOf alias c (wrap alias r) = Val.get r c := by
  simp [colOf, wrap, Val.get, lookup?]

theorem forall_colOf_wrap (alias c : String) (rows : List (Row N)) (P : Val N → Val N → Prop)
    (h : ∀ r1 ∈ rows, ∀ r2 ∈ rows, P (Val.get r1 c) (Val.get r2 c)) :
    ∀ r1 ∈ rows.map (wrap alias), ∀ r2 ∈ rows.map (wrap alias), P (colOf alias c r1) (colOf alias c r2) :=
  List.forall_mem_map.mpr fun q1 hq1 => List.forall_mem_map.mpr fun q2 hq2 => by
    rw [colOf_wrap, colOf_wrap]; exact h q1 hq1 q2 hq2

def flatName (alias c : String) : String := ".".intercalate [alias, c]

variable [Num N]

theorem rowKey_wrap (alias c : String) (r : Row N) {t : String} (ht : fmtR (Val.get r c) = .ok t) :
    rowKey [[alias, c]] (wrap alias r) =
      .ok ("" ++ toString t.utf8ByteSize ++ ":" ++ t ++ "-", [(flatName alias c, Val.get r c)]) := by
  simp only [rowKey, List.foldlM, readPath, keyStep, wrap, Val.get_single, ht, setKey, bind, Except.bind, pure, Except.pure,
    flatName]

/-- total `%v` text -/
def textOf (v : Val N) : String := (fmtV v).getD ""

theorem fmtR_textOf {v : Val N} (h : (fmtV v).isSome = true) : fmtR v = .ok (textOf v) := by
  unfold fmtR textOf
  cases hf : fmtV v with
  | none => rw [hf] at h; cases h
  | some t => rfl

/-- key text / key map of an aliased row, as total functions -/
def keyText (alias c : String) (row : Val N) : String :=
  "" ++ toString (textOf (colOf alias c row)).utf8ByteSize ++ ":" ++ textOf (colOf alias c row) ++ "-"
def keyMapOf (alias c : String) (row : Val N) : Row N := [(flatName alias c, colOf alias c row)]

theorem rowKey_total (alias c : String) (rows : List (Row N)) (hp : ∀ r ∈ rows, (fmtV (Val.get r c)).isSome = true) :
    ∀ row ∈ rows.map (wrap alias), rowKey [[alias, c]] row = .ok (keyText alias c row, keyMapOf alias c row) :=
  List.forall_mem_map.mpr fun r hr => by
    rw [rowKey_wrap alias c r (fmtR_textOf (hp r hr)), keyText, keyMapOf, colOf_wrap]

theorem keyText_inj {alias c : String} {r1 r2 : Val N} (h : keyText alias c r1 = keyText alias c r2) :
    textOf (colOf alias c r1) = textOf (colOf alias c r2) := by
  have h' : Genql.KeyText.tok (textOf (colOf alias c r1)) ++ "" = Genql.KeyText.tok (textOf (colOf alias c r2)) ++ "" := by
    simpa [keyText, Genql.KeyText.tok, String.append_assoc] using h
  exact (Genql.KeyText.tok_append_inj h').1

/-- the value the rows of `rows` carry under a key text (well defined when texts determine values) -/
def valueOfText (alias c : String) (rows : List (Val N)) (t : String) : Val N :=
  match rows.find? (fun row => keyText alias c row == t) with
  | some row => colOf alias c row
  | none => .null

theorem valueOfText_mem (alias c : String) (rows : List (Val N))
    (hinj : ∀ r1 ∈ rows, ∀ r2 ∈ rows, textOf (colOf alias c r1) = textOf (colOf alias c r2) →
      colOf alias c r1 = colOf alias c r2)
    (row : Val N) (hrow : row ∈ rows) : valueOfText alias c rows (keyText alias c row) = colOf alias c row := by
  unfold valueOfText
  cases hf : rows.find? (fun r => keyText alias c r == keyText alias c row) with
  | none => exact absurd (beq_self_eq_true _) (List.find?_eq_none.mp hf row hrow)
  | some r' =>
    have hk := List.find?_some hf
    exact hinj r' (List.mem_of_find?_eq_some hf) row hrow (keyText_inj (eq_of_beq hk))

/-- the ON condition `x.a op y.b` and its flattened form -/
def cmpOn (op : CmpOp) (x a y b : String) : Expr N := .cmp op (.col [x, a]) (.col [y, b])
def cmpOnFlat (op : CmpOp) (x a y b : String) : Expr N := .cmp op (.col [flatName x a]) (.col [flatName y b])

/-- the row the condition is the SQL comparison on: the two key column values under their flat names -/
def pairRow (x a y b : String) (l r : Val N) : Row N := [(flatName x a, colOf x a l), (flatName y b, colOf y b r)]

omit [Num N] in
theorem pairRow_get (x a y b : String) (l r : Val N) (hne : flatName x a ≠ flatName y b) :
    Val.get (pairRow x a y b l r) (flatName x a) = colOf x a l ∧
    Val.get (pairRow x a y b l r) (flatName y b) = colOf y b r := by
  simp [pairRow, Val.get, lookup?, hne]

omit [Num N] in
theorem merged_is_pairRow (x a y b : String) (l r : Val N) (hne : flatName x a ≠ flatName y b) :
    copyInto (copyInto [] (keyMapOf x a l)) (keyMapOf y b r) = pairRow x a y b l r := by
  simp [copyInto, setKey, keyMapOf, pairRow, hne]

omit [Num N] in
theorem extractCols_cmpOn (op : CmpOp) (x a y b : String) (hxy : x ≠ y) :
    extractCols x y (cmpOn (N := N) op x a y b) = .ok [[x, a]] ∧
    extractCols y x (cmpOn (N := N) op x a y b) = .ok [[y, b]] := by
  have hbeq : (some x == some y) = false := by simp [hxy]
  constructor <;> simp [cmpOn, extractCols, colInfo, hbeq, bind, Except.bind, pure, Except.pure]

variable [LawfulNum N]

theorem on_pairRow (env : Env N) (data : Row N) (op : CmpOp) {κ : Kind}
    (hop : op ∈ [CmpOp.ne, .lt, .le, .gt, .ge]) (hκ : κ ≠ .bool ∨ op = .ne) (x a y b : String)
    (hfx : flatName x a ≠ "<-") (hfy : flatName y b ≠ "<-") (hne : flatName x a ≠ flatName y b) {l r : Val N}
    (hl : kindOf (colOf x a l) = some κ) (hr : kindOf (colOf y b r) = some κ) :
    (do rawBool (← evalExpr env (onCtx data) (pairRow x a y b l r) (cmpOn op x a y b))) =
      .ok (sem (pairRow x a y b l r) (cmpOnFlat op x a y b)) := by
  have hflat : flat (cmpOn (N := N) op x a y b) = cmpOnFlat op x a y b := by
    simp [flat, cmpOn, cmpOnFlat, flatName]
  have o1 : Operand (pairRow x a y b l r) κ (Expr.col [flatName x a]) :=
    Operand.col _ κ hfx (by rw [(pairRow_get x a y b l r hne).1]; exact hl)
  have o2 : Operand (pairRow x a y b l r) κ (Expr.col [flatName y b]) :=
    Operand.col _ κ hfy (by rw [(pairRow_get x a y b l r hne).2]; exact hr)
  have hwt : WT (pairRow x a y b l r) (cmpOnFlat (N := N) op x a y b) := by
    cases κ with
    | num => exact WT.cmpNum (List.mem_cons_of_mem _ hop) o1 o2
    | str => exact WT.cmpStr (List.mem_cons_of_mem _ hop) o1 o2
    | bool =>
      rcases hκ with h | h
      · exact absurd rfl h
      · subst h; exact WT.cmpBool (List.mem_cons_of_mem _ List.mem_cons_self) o1 o2
  rw [← hflat] at hwt ⊢
  exact on_sound env data (pairRow x a y b l r) (OnFrag.cmp op (OnFrag.col _) (OnFrag.col _)) hwt

/-- **joins on one comparison, end to end (nested-loop path of the executable model).** -/
theorem join_cmp_model_textbook (env : Env N) (data : Row N) (inner par : Bool) (op : CmpOp) {κ : Kind}
    (hop : op ∈ [CmpOp.ne, .lt, .le, .gt, .ge]) (hκ : κ ≠ .bool ∨ op = .ne)
    (x a y b : String) (hxy : x ≠ y)
    (hfx : flatName x a ≠ "<-") (hfy : flatName y b ≠ "<-") (hne : flatName x a ≠ flatName y b)
    (ls rs : List (Row N))
    (hkl : ∀ r ∈ ls, kindOf (Val.get r a) = some κ) (hkr : ∀ r ∈ rs, kindOf (Val.get r b) = some κ)
    (hpl : ∀ r ∈ ls, (fmtV (Val.get r a)).isSome = true) (hpr : ∀ r ∈ rs, (fmtV (Val.get r b)).isSome = true)
    (hinjl : ∀ r1 ∈ ls, ∀ r2 ∈ ls, textOf (Val.get r1 a) = textOf (Val.get r2 a) → Val.get r1 a = Val.get r2 a)
    (hinjr : ∀ r1 ∈ rs, ∀ r2 ∈ rs, textOf (Val.get r1 b) = textOf (Val.get r2 b) → Val.get r1 b = Val.get r2 b) :
    ∃ out, execJoin { inner := inner, left := true, straight := false, parallel := par }
        (fun row => do rawBool (← evalExpr env (onCtx data) row (cmpOn op x a y b))) (cmpOn op x a y b)
        (ls.map (wrap x)) (rs.map (wrap y)) x y = .ok out ∧
      out.Perm (if inner
        then textbookOn mergeObj (fun l r => sem (pairRow x a y b l r) (cmpOnFlat op x a y b))
              (ls.map (wrap x)) (rs.map (wrap y))
        else textbookLeftOn mergeObj (padObj y) (fun l r => sem (pairRow x a y b l r) (cmpOnFlat op x a y b))
              (ls.map (wrap x)) (rs.map (wrap y))) := by
  let L := ls.map (wrap (N := N) x)
  let R := rs.map (wrap (N := N) y)
  -- ON as a function of the two key texts: the comparison of the values the two texts stand for
  let onKey : String → String → Bool := fun t1 t2 =>
    sem [(flatName x a, valueOfText x a L t1), (flatName y b, valueOfText y b R t2)] (cmpOnFlat (N := N) op x a y b)
  have honKey : ∀ l ∈ L, ∀ r ∈ R, onKey (keyText x a l) (keyText y b r) = sem (pairRow x a y b l r) (cmpOnFlat op x a y b) := by
    intro l hl r hr
    simp only [onKey, pairRow,
      valueOfText_mem x a L (forall_colOf_wrap x a ls (fun u v => textOf u = textOf v → u = v) hinjl) l hl,
      valueOfText_mem y b R (forall_colOf_wrap y b rs (fun u v => textOf u = textOf v → u = v) hinjr) r hr]
  have hon : ∀ l ∈ L, ∀ r ∈ R,
      (fun row => do rawBool (← evalExpr env (onCtx data) row (cmpOn op x a y b)))
        (copyInto (copyInto [] (keyMapOf x a l)) (keyMapOf y b r)) = .ok (onKey (keyText x a l) (keyText y b r)) := by
    intro l hl r hr
    rw [honKey l hl r hr, merged_is_pairRow x a y b l r hne]
    obtain ⟨ql, hql, rfl⟩ := List.mem_map.mp hl
    obtain ⟨qr, hqr, rfl⟩ := List.mem_map.mp hr
    exact on_pairRow env data op hop hκ x a y b hfx hfy hne (by rw [colOf_wrap]; exact hkl ql hql)
      (by rw [colOf_wrap]; exact hkr qr hqr)
  obtain ⟨cl, cr, out, hcl, hcr, hrun, hperm⟩ := nested_join_model_textbook inner y [[x, a]] [[y, b]]
    (fun row => do rawBool (← evalExpr env (onCtx data) row (cmpOn op x a y b))) onKey
    (keyText x a) (keyText y b) (keyMapOf x a) (keyMapOf y b) L R (rowKey_total x a ls hpl) (rowKey_total y b rs hpr) hon
    (allObj_wrap x ls) (allObj_wrap y rs)
  refine ⟨out, ?_, ?_⟩
  · -- strategy selection and column extraction
    have hnoteq : op ≠ .eq := fun h => by rw [h] at hop; exact absurd hop (by decide)
    rw [execJoin_left _ rfl rfl, (extractCols_cmpOn op x a y b hxy).1, (extractCols_cmpOn op x a y b hxy).2]
    show (toCatalog [[x, a]] L [] >>= fun l => toCatalog [[y, b]] R [] >>= fun r => _) = _
    rw [hcl, hcr, C19.ok_bind, C19.ok_bind, cmpOn, hashJoinAnalyze_cmp hnoteq]
    exact hrun
  · -- on the rows of the two tables the condition on key texts is the comparison of the two values
    rw [textbookOn_congr mergeObj _ _ L R honKey, textbookLeftOn_congr mergeObj (padObj y) _ _ L R honKey] at hperm
    exact hperm

/-! ### the hypotheses are satisfiable: integer key columns -/

theorem int_text_inj (m n : Int) (h : textOf (Val.num m : Val Int) = textOf (Val.num n)) : (Val.num m : Val Int) = Val.num n := by
  simp only [textOf, fmtV, Num.fmt, Option.getD_some] at h
  have : m = n := Int.repr_injective h
  rw [this]

example (env : Env Int) (data : Row Int) :
    ∃ out, execJoin { inner := false, left := true, straight := false, parallel := false }
        (fun row => do rawBool (← evalExpr env (onCtx data) row (cmpOn .lt "x" "a" "y" "b"))) (cmpOn .lt "x" "a" "y" "b")
        ([[("a", Val.num (1 : Int))], [("a", .num 5)]].map (wrap "x")) ([[("b", Val.num (3 : Int))]].map (wrap "y")) "x" "y"
        = .ok out ∧ out.length = 2 := by
  obtain ⟨out, h1, h2⟩ := join_cmp_model_textbook env data false false .lt (κ := .num) (by decide) (Or.inl (by decide))
    "x" "a" "y" "b" (by decide) (by decide) (by decide) (by decide)
    [[("a", Val.num (1 : Int))], [("a", .num 5)]] [[("b", Val.num (3 : Int))]]
    (by decide +kernel) (by decide +kernel) (by decide +kernel) (by decide +kernel)
    (by
      intro r1 h1 r2 h2 ht
      simp at h1 h2
      rcases h1 with rfl | rfl <;> rcases h2 with rfl | rfl <;>
        first | rfl | exact int_text_inj _ _ ht)
    (by
      intro r1 h1 r2 h2 _
      cases List.mem_singleton.mp h1; cases List.mem_singleton.mp h2; rfl)
  exact ⟨out, h1, h2.length_eq.trans (by decide +kernel)⟩

end Genql.C04

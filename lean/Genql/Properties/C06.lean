/-
  Property C06 — DISTINCT removes exactly the duplicates; UNION [ALL] concatenates [and dedups].

  The seen-set scan of `ExecDistinct` (`dedupBy`, with the fingerprint comparison abstracted as an
  equivalence `same`) is the textbook duplicate elimination `specDedup`: keep the head, and from the
  deduplicated tail delete whatever is `same` as the head.  For `same := (· == ·)` on a type with
  lawful equality this is `List.eraseDups`.
-/
import Genql.Proofs.Loops
namespace Genql.C06
open Genql
variable {α : Type}

/-- textbook duplicate elimination (first occurrences, source order) -/
def specDedup (same : α → α → Bool) : List α → List α
  | [] => []
  | x :: xs => x :: (specDedup same xs).filter (fun y => !same x y)

/-- `same` is an equivalence relation (what equality of fingerprints is) -/
structure Equiv (same : α → α → Bool) : Prop where
  refl : ∀ a, same a a = true
  symm : ∀ a b, same a b = same b a
  trans : ∀ a b c, same a b = true → same b c = true → same a c = true

theorem Equiv.congr_left {same : α → α → Bool} (h : Equiv same) {x y : α} (hxy : same x y = true) (s : α) :
    same x s = same y s :=
  Bool.eq_iff_iff.mpr ⟨h.trans y x s (h.symm x y ▸ hxy), h.trans x y s hxy⟩

theorem dedupLoop_eq_spec (same : α → α → Bool) (h : Equiv same) :
    ∀ (xs seen : List α),
      dedupLoop same xs seen = (specDedup same xs).filter (fun y => !seen.any (same y)) := by
  intro xs
  induction xs with
  | nil => intro seen; rfl
  | cons x xs ih =>
    intro seen
    rw [dedupLoop, specDedup, List.filter_cons, List.filter_filter]
    cases hx : seen.any (same x) with
    | true =>
      show dedupLoop same xs seen = List.filter _ _
      rw [ih seen]
      refine List.filter_congr fun y _ => ?_
      -- a `y` that is `same` as `x` has been seen as well
      cases hxy : same x y with
      | false => exact (Bool.and_true _).symm
      | true => rw [← congrArg seen.any (funext (h.congr_left hxy)), hx]; rfl
    | false =>
      show x :: dedupLoop same xs (x :: seen) = x :: List.filter _ _
      rw [ih (x :: seen)]
      simp only [List.any_cons, Bool.not_or, h.symm _ x, Bool.and_comm]

theorem dedupLoop_map {β : Type} (same : β → β → Bool) (f : α → β) (xs seen : List α) :
    dedupLoop same (xs.map f) (seen.map f) = (dedupLoop (fun a b => same (f a) (f b)) xs seen).map f := by
  induction xs generalizing seen with
  | nil => rfl
  | cons x xs ih =>
    rw [List.map_cons, dedupLoop, dedupLoop, List.any_map]
    show (if seen.any (fun y => same (f x) (f y)) then _ else _) = _
    cases seen.any (fun y => same (f x) (f y))
    · exact congrArg (f x :: ·) (ih (x :: seen))
    · exact ih seen

/-- **DISTINCT = first occurrences.** Each class of `same` is kept exactly once, at the position
    of its first member, in source order. -/
theorem dedup_first_occurrence (same : α → α → Bool) (h : Equiv same) (xs : List α) :
    dedupBy same xs = specDedup same xs := by
  unfold dedupBy
  rw [dedupLoop_eq_spec same h xs []]
  exact List.filter_eq_self.mpr fun _ _ => rfl

theorem specDedup_sublist (same : α → α → Bool) (xs : List α) : (specDedup same xs).Sublist xs := by
  induction xs with
  | nil => exact .slnil
  | cons x xs ih => exact (List.filter_sublist.trans ih).cons_cons x

/-- nothing is invented and order is preserved: the result is a sublist of the input -/
theorem dedup_sublist (same : α → α → Bool) (h : Equiv same) (xs : List α) :
    (dedupBy same xs).Sublist xs := by
  rw [dedup_first_occurrence same h]; exact specDedup_sublist same xs

theorem specDedup_nodup (same : α → α → Bool) (xs : List α) :
    (specDedup same xs).Pairwise (fun a b => same a b = false) := by
  induction xs with
  | nil => exact .nil
  | cons x xs ih =>
    exact .cons (fun y hy => (Bool.not_eq_true' _).mp (List.mem_filter.mp hy).2) (ih.sublist List.filter_sublist)

theorem dedup_nodup (same : α → α → Bool) (h : Equiv same) (xs : List α) :
    (dedupBy same xs).Pairwise (fun a b => same a b = false) := by
  rw [dedup_first_occurrence same h]; exact specDedup_nodup same xs

theorem specDedup_covers (same : α → α → Bool) (h : Equiv same) (xs : List α) :
    ∀ x ∈ xs, ∃ y ∈ specDedup same xs, same y x = true := by
  induction xs with
  | nil => intro x hx; cases hx
  | cons a xs ih =>
    intro x hx
    rcases List.mem_cons.mp hx with rfl | hx'
    · exact ⟨x, List.mem_cons_self, h.refl x⟩
    · obtain ⟨y, hy, hyx⟩ := ih x hx'
      cases hs : same a y with
      | true => exact ⟨a, List.mem_cons_self, h.trans a y x hs hyx⟩
      | false => exact ⟨y, List.mem_cons_of_mem _ (List.mem_filter.mpr ⟨hy, by rw [hs]; rfl⟩), hyx⟩

theorem specDedup_append (same : α → α → Bool) (l r : List α) :
    specDedup same (l ++ r) = specDedup same l ++ (specDedup same r).filter (fun y => !l.any (fun a => same a y)) := by
  induction l with
  | nil => exact (List.filter_eq_self.mpr fun _ _ => rfl).symm
  | cons a l ih =>
    rw [List.cons_append, specDedup, ih, List.filter_append, List.filter_filter, specDedup, List.cons_append]
    simp only [List.any_cons, Bool.not_or]

theorem any_specDedup (same : α → α → Bool) (h : Equiv same) (l : List α) (k : α) :
    (specDedup same l).any (fun a => same a k) = l.any (fun a => same a k) := by
  rw [Bool.eq_iff_iff, List.any_eq_true, List.any_eq_true]
  constructor
  · rintro ⟨a, ha, hak⟩; exact ⟨a, (specDedup_sublist same l).subset ha, hak⟩
  · rintro ⟨a, ha, hak⟩
    obtain ⟨y, hy, hya⟩ := specDedup_covers same h l a ha
    exact ⟨y, hy, h.trans y a k hya hak⟩

theorem dedup_mem_iff (same : α → α → Bool) (h : Equiv same) (xs : List α) (x : α) :
    (∃ y ∈ dedupBy same xs, same y x = true) ↔ (∃ z ∈ xs, same z x = true) := by
  rw [dedup_first_occurrence same h, ← List.any_eq_true, ← List.any_eq_true, any_specDedup same h]

theorem specDedup_fix (same : α → α → Bool) (xs : List α)
    (hp : xs.Pairwise (fun a b => same a b = false)) : specDedup same xs = xs := by
  induction xs with
  | nil => rfl
  | cons x xs ih =>
    obtain ⟨hx, hp⟩ := List.pairwise_cons.mp hp
    rw [specDedup, ih hp, List.filter_eq_self.mpr fun y hy => by rw [hx y hy]; rfl]

theorem dedup_idempotent (same : α → α → Bool) (h : Equiv same) (xs : List α) :
    dedupBy same (dedupBy same xs) = dedupBy same xs := by
  rw [dedup_first_occurrence same h (dedupBy same xs)]
  exact specDedup_fix same _ (dedup_nodup same h xs)

/-- the rows a union node hands to the rest of the pipeline (`BuildUnion`): both branches appended,
    deduplicated unless ALL -/
def unionRows (same : α → α → Bool) (distinct : Bool) (l r : List α) : List α :=
  if distinct then dedupBy same (l ++ r) else l ++ r

theorem union_all_append (same : α → α → Bool) (l r : List α) : unionRows same false l r = l ++ r := rfl

theorem union_dedup (same : α → α → Bool) (h : Equiv same) (l r : List α) :
    unionRows same true l r = specDedup same (l ++ r) :=
  dedup_first_occurrence same h (l ++ r)

/-- chains associate: `(A UNION B) UNION C` deduplicates exactly like one pass over `A ++ B ++ C` -/
theorem union_chain_assoc (same : α → α → Bool) (h : Equiv same) (a b c : List α) :
    unionRows same true (unionRows same true a b) c = specDedup same (a ++ b ++ c) := by
  rw [union_dedup same h, union_dedup same h, specDedup_append, specDedup_append same (a ++ b),
    specDedup_fix same _ (specDedup_nodup same _)]
  simp only [any_specDedup same h]

/-- a mixed chain: `(A UNION ALL B) UNION C` is one deduplication of everything, and
    `(A UNION B) UNION ALL C` keeps C's rows as they are -/
theorem union_mixed (same : α → α → Bool) (h : Equiv same) (a b c : List α) :
    unionRows same true (unionRows same false a b) c = specDedup same (a ++ b ++ c) ∧
    unionRows same false (unionRows same true a b) c = specDedup same (a ++ b) ++ c :=
  ⟨dedup_first_occurrence same h (a ++ b ++ c), congrArg (· ++ c) (dedup_first_occurrence same h (a ++ b))⟩

/-- a LIMIT/OFFSET written on the union is applied to the combined (deduplicated) rows -/
theorem union_limit_outermost (same : α → α → Bool) (distinct : Bool) (l r : List α) (off lim : Option Nat) :
    window (unionRows same distinct l r) off lim =
      .ok (((unionRows same distinct l r).drop (off.getD 0)).take (lim.getD (unionRows same distinct l r).length)) :=
  C05.window_exact _ off lim

theorem beq_equiv {α : Type} [BEq α] [LawfulBEq α] : Equiv (fun a b : α => a == b) where
  refl := beq_self_eq_true
  symm _ _ := BEq.comm
  trans a b c h1 h2 := by rw [eq_of_beq h1]; exact h2

/-- non-vacuity: equality on `Nat` is such a relation, and the scan really drops the later copies -/
theorem natEq_equiv : Equiv (fun a b : Nat => a == b) := beq_equiv

example : dedupBy (fun a b : Nat => a == b) [1, 2, 1, 3, 2] = [1, 2, 3] := by decide +kernel
example : unionRows (fun a b : Nat => a == b) true (unionRows (fun a b : Nat => a == b) true [1, 2] [2, 3]) [3, 1, 4]
    = [1, 2, 3, 4] := by decide +kernel

end Genql.C06

/-
  Property C08 — a multi-dimensional FROM applies the query inside every inner array.

  `levelLoop`/`execLevel` are the `[]any` case of `exec()` together with `CopyQuery`: every inner
  array is executed with the same WHERE (`wh`) and the same rest of the pipeline (`post`).
-/
import Genql.Proofs.Loops
import Genql.Lawful
-- `levelElem_arr`, `flat_is_base_case`, `mix_concat` take `[Num N] [LawfulNum N]` of the `variable` line without using them;
-- their statements are kept as they stand
set_option linter.unusedSectionVars false
namespace Genql.C08
open Genql
variable {N : Type} [Num N] [LawfulNum N]

/-- the inner execution of one inner array, as one element of the outer result -/
def innerExec (wh : List (Val N) → Row N → R Bool)
    (post : List (Val N) → List (Val N) → R (List (Val N))) (ys : List (Val N)) : R (Val N) :=
  match execLevel wh post ys with
  | .ok r => .ok (.arr r)
  | .error e => .error e

theorem levelElem_arr (wh : List (Val N) → Row N → R Bool)
    (post : List (Val N) → List (Val N) → R (List (Val N))) (src ys : List (Val N)) :
    levelElem wh post src (.arr ys) = (innerExec wh post ys).map some := by
  rw [levelElem, ← bind_assoc, innerExec, execLevel]
  cases levelLoop wh post ys ys >>= post ys <;> rfl

/-- **nested execution**: over an array of arrays the filter loop yields the array of the inner
    executions (same nesting); each inner result is what the same WHERE and the same pipeline return
    when run directly on that inner array -/
theorem nested_exec (wh : List (Val N) → Row N → R Bool)
    (post : List (Val N) → List (Val N) → R (List (Val N))) (src : List (Val N))
    (yss : List (List (Val N))) :
    levelLoop wh post src (yss.map Val.arr) = mapE (innerExec wh post) yss := by
  induction yss with
  | nil => rfl
  | cons ys yss ih =>
    rw [List.map_cons, levelLoop, levelElem_arr, ih, mapE]
    cases innerExec wh post ys <;> rfl

/-- on a flat array of objects the loop is the ordinary WHERE filter (base case) -/
theorem flat_is_base_case (wh : List (Val N) → Row N → R Bool)
    (post : List (Val N) → List (Val N) → R (List (Val N))) (src : List (Val N))
    (rows : List (Row N)) (f : Row N → Bool) (h : ∀ r ∈ rows, wh src r = .ok (f r)) :
    levelLoop wh post src (rows.map Val.obj) = .ok ((rows.filter f).map Val.obj) :=
  levelLoop_flat wh post src rows f h

/-- `post` leaves inner results alone (what a WHERE + select-list query does with arrays:
    `ExecSelect` passes them through; no DISTINCT / ORDER BY / LIMIT) -/
def PassesArrays (post : List (Val N) → List (Val N) → R (List (Val N))) : Prop :=
  ∀ src (kept : List (Val N)), (∀ x ∈ kept, ∃ ys, x = Val.arr ys) → post src kept = .ok kept

/-- the textbook reading at any depth: depth 0 = the flat pipeline, depth d+1 = map over the
    elements -/
def nestedSpec (flat : List (Val N) → R (List (Val N))) : Nat → List (Val N) → R (List (Val N))
  | 0, xs => flat xs
  | d + 1, xs => mapE (fun x => match x with
      | .arr ys => (match nestedSpec flat d ys with | .ok r => .ok (.arr r) | .error e => .error e)
      | _ => .error .error) xs

/-- `xs` is an array of … of arrays (d levels) of objects -/
def Uniform : Nat → List (Val N) → Prop
  | 0, xs => ∀ x ∈ xs, ∃ fs, x = .obj fs
  | d + 1, xs => ∀ x ∈ xs, ∃ ys, x = .arr ys ∧ Uniform d ys

omit [Num N] [LawfulNum N] in
theorem all_arr_of_uniform {d : Nat} {xs : List (Val N)} (h : Uniform (d + 1) xs) :
    ∃ yss : List (List (Val N)), xs = yss.map Val.arr ∧ ∀ ys ∈ yss, Uniform d ys := by
  induction xs with
  | nil => exact ⟨[], rfl, fun _ h => by cases h⟩
  | cons x xs ih =>
    obtain ⟨⟨ys, rfl, hy⟩, hxs⟩ := List.forall_mem_cons.mp h
    obtain ⟨yss, rfl, hall⟩ := ih hxs
    exact ⟨ys :: yss, rfl, List.forall_mem_cons.mpr ⟨hy, hall⟩⟩

omit [Num N] [LawfulNum N] in
theorem innerExec_arr {wh : List (Val N) → Row N → R Bool}
    {post : List (Val N) → List (Val N) → R (List (Val N))} {ys : List (Val N)} {v : Val N}
    (h : innerExec wh post ys = .ok v) : ∃ r, v = .arr r := by
  unfold innerExec at h
  split at h <;> cases h
  exact ⟨_, rfl⟩

theorem execLevel_arrays (wh : List (Val N) → Row N → R Bool)
    (post : List (Val N) → List (Val N) → R (List (Val N))) (hp : PassesArrays post) (yss : List (List (Val N))) :
    execLevel wh post (yss.map Val.arr) = mapE (innerExec wh post) yss := by
  rw [execLevel, nested_exec]
  cases hm : mapE (innerExec wh post) yss with
  | error e => rfl
  | ok rs =>
    refine hp _ rs fun x hx => ?_
    obtain ⟨i, hi, rfl⟩ := List.mem_iff_getElem.mp hx
    exact innerExec_arr (mapE_ok_get hm i (mapE_ok_length hm ▸ hi) hi)

/-- **any depth**: on a source of uniform depth `d` the engine computes the depth-`d` map of the
    flat pipeline — the result has the same nesting as the source -/
theorem nested_exec_depth (wh : List (Val N) → Row N → R Bool)
    (post : List (Val N) → List (Val N) → R (List (Val N))) (hp : PassesArrays post) :
    ∀ (d : Nat) (xs : List (Val N)), Uniform d xs →
      execLevel wh post xs = nestedSpec (execLevel wh post) d xs := by
  intro d
  induction d with
  | zero => intro xs _; rfl
  | succ d ih =>
    intro xs hu
    obtain ⟨yss, rfl, hall⟩ := all_arr_of_uniform hu
    rw [execLevel_arrays wh post hp, nestedSpec, mapE_comp]
    exact mapE_congr fun ys hys => by rw [innerExec, ih ys (hall ys hys)]

/-- the flat pipeline of a WHERE + select-list query on one array of objects -/
def flatExec (p : Row N → R Bool) (one : Row N → R (Row N)) (rows : List (Row N)) : R (List (Val N)) := do
  let kept ← filterLoop p rows
  mapE (fun r => do let o ← one r; pure (Val.obj o)) kept

/-- **`mix=>` then query = concatenation of the per-array results** (when every inner execution
    succeeds): the flat pipeline distributes over concatenation of sources -/
theorem mix_concat (p : Row N → R Bool) (one : Row N → R (Row N)) (xs ys : List (Row N))
    (a b : List (Val N)) (ha : flatExec p one xs = .ok a) (hb : flatExec p one ys = .ok b) :
    flatExec p one (xs ++ ys) = .ok (a ++ b) := by
  obtain ⟨kx, hx, ha⟩ := bind_eq_ok ha
  obtain ⟨ky, hy, hb⟩ := bind_eq_ok hb
  rw [flatExec, filterLoop_append, hx, hy]
  show mapE _ (kx ++ ky) = _
  rw [mapE_append, ha, hb]; rfl

theorem mix_concat_all (p : Row N → R Bool) (one : Row N → R (Row N)) :
    ∀ (srcs : List (List (Row N))) (outs : List (List (Val N))),
      srcs.length = outs.length →
      (∀ i (h1 : i < srcs.length) (h2 : i < outs.length), flatExec p one srcs[i] = .ok outs[i]) →
      flatExec p one srcs.flatten = .ok outs.flatten := by
  intro srcs
  induction srcs with
  | nil =>
    intro outs hl _
    cases outs with
    | nil => rfl
    | cons o os => simp at hl
  | cons s srcs ih =>
    intro outs hl h
    cases outs with
    | nil => simp at hl
    | cons o os =>
      simp only [List.flatten_cons]
      apply mix_concat p one s srcs.flatten o os.flatten
      · exact h 0 (by simp) (by simp)
      · apply ih os (by simpa using hl)
        intro i h1 h2
        exact h (i + 1) (by simpa using h1) (by simpa using h2)

end Genql.C08

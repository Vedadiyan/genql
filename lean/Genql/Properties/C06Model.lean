/-
  C06 for the relation the executable model really uses: `valEq` on well-formed values is an
  equivalence (`Proofs/ValEqEquiv`), so every theorem of `Properties/C06` (stated for an arbitrary
  equivalence `same`) holds of the model's DISTINCT / UNION stage `dedupBy valEq` on lists of well-formed
  values: first occurrences, no duplicates, idempotence, union-chain associativity.  (That the rows reaching
  that stage are well formed is not proved here.)
-/
import Genql.Properties.C06
import Genql.Proofs.ValEqEquiv
namespace Genql.C06
open Genql Genql.ValEqEquiv
variable {N : Type} [Num N] [LawfulNum N]

/-- well-formed values (objects with pairwise different keys, as Go maps are) -/
abbrev WFVal (N : Type) [Num N] := { v : Val N // WF v }

/-- the model's row equality, on well-formed values -/
def sameWF (a b : WFVal N) : Bool := valEq a.1 b.1

theorem sameWF_equiv : Equiv (sameWF (N := N)) where
  refl := fun a => valEq_refl a.1 a.2
  symm := fun a b => valEq_comm a.1 b.1 a.2 b.2
  trans := fun a b c h1 h2 => valEq_trans a.1 b.1 c.1 h1 h2

-- `[LawfulNum N]` of the `variable` line is not used; the statement is kept as it stands
set_option linter.unusedSectionVars false in
theorem dedupBy_val (xs : List (WFVal N)) :
    dedupBy valEq (xs.map (·.1)) = (dedupBy sameWF xs).map (·.1) :=
  dedupLoop_map valEq Subtype.val xs []

/-- **the model's DISTINCT keeps exactly the first occurrence of every class of equal rows** -/
theorem distinct_model_first_occurrence (xs : List (WFVal N)) :
    dedupBy valEq (xs.map (·.1)) = (specDedup sameWF xs).map (·.1) := by
  rw [dedupBy_val, dedup_first_occurrence sameWF sameWF_equiv]

theorem distinct_model_idempotent (xs : List (WFVal N)) :
    dedupBy valEq (dedupBy valEq (xs.map (·.1))) = dedupBy valEq (xs.map (·.1)) := by
  rw [dedupBy_val, dedupBy_val, dedup_idempotent sameWF sameWF_equiv]

/-- non-vacuity: two rows equal as maps but with different key order are identified -/
example : valEq (N := Int) (.obj [("a", .num 1), ("b", .str "x")]) (.obj [("b", .str "x"), ("a", .num 1)]) = true := by
  decide +kernel

end Genql.C06

/-
  C06, union part, for the executable model: a `UNION [ALL]` node whose two sides return arrays of objects
  evaluates to `unionRows valEq distinct` of the two sides' rows (each copied, without the navigation marker),
  then ORDER BY, then the window — the pure function the theorems of `Properties/C06` are about
  (`union_all_append`, `union_dedup`, `union_chain_assoc`, `union_limit_outermost`).
-/
import Genql.Properties.C06Model
import Genql.Proofs.Exec
namespace Genql.C06
open Genql Genql.C01
variable {N : Type} [Num N] [LawfulNum N]

/-- the copy `SELECT *` makes of one row of the combined source -/
def stripRow (r : Row N) : Val N := .obj (copyInto [] (delKey "<-" r))

-- `[LawfulNum N]` of the `variable` line is not used; the statement is kept as it stands
set_option linter.unusedSectionVars false in
/-- **the union node of the model**: both sides' rows appended, copied, deduplicated unless ALL, then sorted
    and windowed as one result -/
theorem union_model (env : Env N) (data : Row N) (l r : Query N) (distinct : Bool)
    (orderBy : List (List String × Bool)) (limit offset : Option Nat) (ls rs : List (Row N))
    (hl : execQuery env data {} l = .ok (.arr (ls.map Val.obj)))
    (hr : execQuery env data {} r = .ok (.arr (rs.map Val.obj))) :
    execQuery env data {} (.union [] l r distinct orderBy limit offset) = (do
      let rows := unionRows valEq distinct (ls.map stripRow) (rs.map stripRow)
      let sorted ← sortRows orderBy rows
      let out ← window sorted offset limit
      pure (Val.arr out)) := by
  rw [execQuery, prepare_union_nil, hl, hr]
  show runUnion distinct orderBy limit offset (ls.map Val.obj ++ rs.map Val.obj) = _
  rw [← List.map_append, runUnion_rows, List.map_append]
  exact tailStage_bind ..

/-- UNION ALL of two sides is their concatenation (each row copied) -/
theorem union_all_model (env : Env N) (data : Row N) (l r : Query N) (ls rs : List (Row N))
    (hl : execQuery env data {} l = .ok (.arr (ls.map Val.obj)))
    (hr : execQuery env data {} r = .ok (.arr (rs.map Val.obj))) :
    execQuery env data {} (.union [] l r false [] none none) = .ok (.arr (ls.map stripRow ++ rs.map stripRow)) := by
  rw [union_model env data l r false [] none none ls rs hl hr]
  simp [union_all_append, sortRows_nil, window_none, bind, Except.bind, pure, Except.pure]

/-- the fields of the copy `stripRow` makes -/
def stripR (r : Row N) : Row N := copyInto [] (delKey "<-" r)

/-- **a parenthesised inner union with a window of its own** — `(A UNION ALL B LIMIT n OFFSET m) UNION ALL C`: the window cuts
    `A ++ B` (rows `m .. m+n-1` of the concatenation), and only then the rows of `C` are appended; nothing of the inner
    LIMIT / OFFSET is lost or moved to the outer union (a flattening of union chains would drop it). -/
theorem nested_union_inner_window (env : Env N) (data : Row N) (a b c : Query N) (as bs cs : List (Row N))
    (limit offset : Option Nat)
    (ha : execQuery env data {} a = .ok (.arr (as.map Val.obj)))
    (hb : execQuery env data {} b = .ok (.arr (bs.map Val.obj)))
    (hc : execQuery env data {} c = .ok (.arr (cs.map Val.obj))) :
    execQuery env data {} (.union [] (.union [] a b false [] limit offset) c false [] none none)
      = .ok (.arr ((((as.map stripR ++ bs.map stripR).drop (offset.getD 0)).take
            (limit.getD (as.length + bs.length))).map stripRow ++ cs.map stripRow)) := by
  have hin : execQuery env data {} (.union [] a b false [] limit offset)
      = .ok (.arr ((((as.map stripR ++ bs.map stripR).drop (offset.getD 0)).take
            (limit.getD (as.length + bs.length))).map Val.obj)) := by
    rw [union_model env data a b false [] limit offset as bs ha hb]
    have hrows : unionRows valEq false (as.map stripRow) (bs.map stripRow)
        = (as.map stripR ++ bs.map stripR).map Val.obj := by
      rw [union_all_append, List.map_append, List.map_map, List.map_map]; rfl
    simp only [hrows, sortRows_nil, bind, Except.bind, pure, Except.pure]
    rw [C05.window_exact]
    simp [List.map_drop, List.map_take]
  exact union_all_model env data _ c _ cs hin hc

end Genql.C06

/-
  Property C19 — a failure anywhere surfaces as an error, never as a partial result.

  In the model a result is `Except Err _`: rows XOR an error, by typing (the Go API could return
  both; the harness checks it does not).  The content here is propagation: a loop of the engine fails
  (`IsError`: some error, no rows) as soon as one of its steps fails — the filter loop over a flat table, the
  select loop, argument lists, sort-key reading, the ON of the nested-loop join — and so do the clauses built
  on them.  The group scan, the hash join and the catalogue have no such lemma.
-/
import Genql.Properties.C01
import Genql.Proofs.Builtins
-- `toFloat64_notNumeric`, `minLoop_notNumeric` take the instance arguments of the `variable` line without using them;
-- their statements are kept as they stand
set_option linter.unusedSectionVars false
namespace Genql.C19
open Genql Genql.C01
variable {N : Type} [Num N]

/-- an argument list fails if any argument fails (`FuncArgReader`, `ValueTupleExpr`) -/
theorem evalArgs_error (env : Env N) (ctx : Ctx N) (cur : Row N) (es : List (Expr N)) (e : Expr N) (he : e ∈ es)
    (hf : IsError (evalExpr env ctx cur e)) : IsError (evalArgs env ctx cur es) := by
  rw [evalArgs_eq_mapE]
  exact mapE_isError he (isError_bind hf)

/-- the select list fails if any item's expression fails: no NULL-patched row is produced -/
theorem evalSel_error (env : Env N) (ctx : Ctx N) (cur : Row N) (sel : List (SelItem N)) (acc : Row N)
    (e : Expr N) (key alias : String) (hm : SelItem.item e key alias ∈ sel)
    (hf : IsError (evalExpr env ctx cur e)) : IsError (evalSel env ctx cur sel acc) := by
  obtain ⟨pre, post, rfl⟩ := List.append_of_mem hm
  rw [evalSel_append]
  exact isError_bind_right fun _ _ => isError_bind hf

/-- the injected fault: `VF_FAIL(x)` fails exactly on the configured argument value -/
theorem vf_fail_fails (env : Env N) (ctx : Ctx N) (cur : Row N) (a : Expr N) (x : IVal N) (v w : Val N)
    (ha : evalExpr env { ctx with hard := false } cur a = .ok x) (hv : valueOf cur x = .ok v) (hw : env.failOn = some w)
    (heq : valEq v w = true) : evalExpr env ctx cur (.func .none "vf_fail" [a]) = .error .error := by
  have hargs : evalArgs env { ctx with hard := false } cur [a] = .ok [v] := by
    rw [evalArgs_eq_mapE, mapE, ha, ok_bind, hv]; rfl
  rw [evalExpr_func env ctx cur (.inl rfl), hargs, ok_bind, if_pos rfl]
  simp only [hw, heq, if_true]

/-- **a failure in WHERE on any row fails the whole query — no rows are returned** -/
theorem where_fault_propagates (env : Env N) (data : Row N) (t : String) (rows : List (Row N)) (p : Expr N)
    (sel : List (SelItem N)) (ht : Val.get data t = .arr (rows.map Val.obj))
    (r : Row N) (hr : r ∈ rows)
    (hf : ∀ ctx : Ctx N, ctx.data = data → IsError (evalExpr env ctx r p)) :
    IsError (execQuery env data {} (.select [] false sel (.table [t] "" t) p [] (.bool true) [] none none)) :=
  execQuery_table_error ht hr (isError_bind (hf _ rfl))

/-- rows XOR error -/
theorem no_partial_result (env : Env N) (data : Row N) (q : Query N) :
    (∃ v, execQuery env data {} q = .ok v) ∨ (∃ e, execQuery env data {} q = .error e) := by
  cases execQuery env data {} q with
  | ok v => exact .inl ⟨v, rfl⟩
  | error e => exact .inr ⟨e, rfl⟩

/-! ### a numeric aggregate over a value that is no number fails (it is not read as 0) -/

/-- a value `ToFloat64` refuses: a boolean, an object, an array -/
def NotNumeric : Val N → Prop
  | .bool _ => True
  | .arr _ => True
  | .obj _ => True
  | _ => False

/-- no member is a text (texts go through `ParseFloat`, which the model does not predict: out of model) -/
def NoText (xs : List (Val N)) : Prop := ∀ x ∈ xs, ∀ s, x ≠ .str s

theorem toFloat64_notNumeric (v : Val N) (h : NotNumeric v) : toFloat64 v = .error .error := by
  cases v <;> first | rfl | exact h.elim

omit [Num N] in
/-- the scan that `sumLoop` and `minLoop` share (NULL members skipped, every other member converted by `ToFloat64`
    before it is folded in by `step`) fails on a member that is no number -/
theorem numLoop_notNumeric (loop : List (Val N) → Option N → R (Option N)) {step : Option N → N → Option N}
    (hnull : ∀ xs acc, loop (.null :: xs) acc = loop xs acc)
    (hcons : ∀ x xs acc, x ≠ .null → loop (x :: xs) acc = toFloat64 x >>= fun n => loop xs (step acc n))
    (xs : List (Val N)) (acc : Option N) (hn : NoText xs) (hb : ∃ x ∈ xs, NotNumeric x) :
    loop xs acc = .error .error := by
  induction xs generalizing acc with
  | nil => obtain ⟨x, hx, _⟩ := hb; cases hx
  | cons y ys ih =>
    have hn' : NoText ys := fun x hx => hn x (List.mem_cons_of_mem _ hx)
    have hb' : ¬ NotNumeric y → ∃ x ∈ ys, NotNumeric x := by
      obtain ⟨x, hx, hxn⟩ := hb
      rcases List.mem_cons.mp hx with rfl | hx'
      · exact fun h => absurd hxn h
      · exact fun _ => ⟨x, hx', hxn⟩
    cases y with
    | null => rw [hnull]; exact ih acc hn' (hb' id)
    | num n => rw [hcons _ _ _ (by simp)]; exact ih _ hn' (hb' id)
    | str s => exact absurd rfl (hn (.str s) (by simp) s)
    | _ => rw [hcons _ _ _ (by simp)]; rfl

/-- SUM / AVG: one boolean, object or array among the members fails the whole aggregate, wherever it stands and whatever the
    other members add up to -/
theorem sumLoop_notNumeric (xs : List (Val N)) (acc : Option N) (hn : NoText xs) (hb : ∃ x ∈ xs, NotNumeric x) :
    sumLoop xs acc = .error .error :=
  numLoop_notNumeric sumLoop (fun _ _ => rfl) (fun x _ _ hx => by cases x <;> first | rfl | exact absurd rfl hx)
    xs acc hn hb

/-- MIN / MAX likewise -/
theorem minLoop_notNumeric (better : N → N → Bool) (xs : List (Val N)) (acc : Option N) (hn : NoText xs)
    (hb : ∃ x ∈ xs, NotNumeric x) : minLoop better xs acc = .error .error :=
  numLoop_notNumeric (minLoop better) (fun _ _ => rfl) (fun x _ _ hx => by cases x <;> first | rfl | exact absurd rfl hx)
    xs acc hn hb

/-- the four numeric aggregates as the engine calls them (`callBody`, after the arity guard): over members of which one is a
    boolean / object / array (and none a text) each of them is an error -/
theorem numeric_aggregate_type_error (cnt : Bool) (f : String) (hf : f = "sum" ∨ f = "avg" ∨ f = "min" ∨ f = "max")
    (star : Option (List (Val N))) (fromLen : Nat) (xs : List (Val N)) (hn : NoText xs) (hb : ∃ x ∈ xs, NotNumeric x) :
    callBody cnt f star fromLen [.arr xs] = .error .error := by
  rcases hf with rfl | rfl | rfl | rfl
  · rw [callBody_sum, asSlice, C19.ok_bind, sumLoop_notNumeric xs none hn hb]; rfl
  · rw [callBody_avg, asSlice, C19.ok_bind, sumLoop_notNumeric xs none hn hb]; rfl
  · rw [callBody_min, asSlice, C19.ok_bind, minLoop_notNumeric _ xs none hn hb]; rfl
  · rw [callBody_max, asSlice, C19.ok_bind, minLoop_notNumeric _ xs none hn hb]; rfl

/-- `CHANGETYPE(x, 'double')` of a boolean, object or array is an error as well (the same `ToFloat64`) -/
theorem changetype_double_notNumeric (cnt : Bool) (star : Option (List (Val N))) (fromLen : Nat) (x : Val N)
    (h : NotNumeric x) : callBody cnt "changetype" star fromLen [x, .str "double"] = .error .error := by
  cases x <;> first | exact h.elim | rfl

example : callBody (N := Int) false "sum" none 0 [.arr [.num 1, .null, .bool true, .num 2]] = .error .error :=
  numeric_aggregate_type_error false "sum" (.inl rfl) none 0 _ (by intro x hx s; simp at hx; rcases hx with rfl | rfl | rfl | rfl <;> simp)
    ⟨.bool true, by simp, trivial⟩

end Genql.C19

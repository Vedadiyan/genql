/-
  Property C07 — CTEs, derived tables and sub-queries equal staged evaluation.
-/
import Genql.Properties.C01
import Genql.Proofs.Exec
-- `cte_substitution`, `union_cte_substitution`, `derived_substitution`, `subquery_standalone` take `[LawfulNum N]` of the
-- `variable` line without using it; their statements are kept as they stand
set_option linter.unusedSectionVars false
namespace Genql.C07
open Genql Genql.C01
variable {N : Type} [Num N]

theorem filter_ne_self {l : List String} {c : String} (h : c ∉ l) : l.filter (· ≠ c) = l :=
  List.filter_eq_self.mpr fun _ ha => decide_eq_true fun e => h (e ▸ ha)

/-- a fresh name whose body succeeded is, for the rest of the WITH list (and so for the query behind it), a key of the
    document — the scope is what it would be without that CTE -/
theorem evalCtes_fresh {env : Env N} {data : Row N} {sc : Scope} {c : String} {inner : Query N} {ctes : List (Cte N)}
    {v : Val N} (hc1 : c ∉ cteNames ctes) (hc2 : c ∉ sc.fwd) (hc3 : c ∉ sc.bad)
    (hin : execQuery env data { sc with fwd := c :: (cteNames ctes ++ sc.fwd) } inner = .ok v) :
    evalCtes env data { sc with fwd := cteNames (.mk c inner :: ctes) ++ sc.fwd } (.mk c inner :: ctes) =
      evalCtes env (setKey c v data) { sc with fwd := cteNames ctes ++ sc.fwd } ctes := by
  show evalCtes env data { sc with fwd := c :: (cteNames ctes ++ sc.fwd) } _ = _
  rw [evalCtes_cons, hin, filter_ne_self hc3, List.filter_cons_of_neg (by simp), filter_ne_self (by simp [hc1, hc2])]

variable [LawfulNum N]

/-- **CTE substitution.** A query `WITH c AS (inner), rest… <outer>` is prepared exactly like
    `WITH rest… <outer>` over the document extended with `c ↦ (result of inner)`: naming the
    intermediate result does not change it.  (`c` fresh; `inner` evaluated in the scope in which
    `c` and the later CTE names are not yet defined.) -/
theorem cte_substitution (env : Env N) (data : Row N) (sc : Scope) (c : String) (inner : Query N)
    (ctes : List (Cte N)) (d : Bool) (sel : List (SelItem N)) (frm : From N) (wh : Expr N)
    (gb : List (String × List String)) (hv : Expr N) (ob : List (List String × Bool)) (lim off : Option Nat)
    (v : Val N)
    (hc1 : c ∉ cteNames ctes) (hc2 : c ∉ sc.fwd) (hc3 : c ∉ sc.bad)
    (hin : execQuery env data { sc with fwd := c :: (cteNames ctes ++ sc.fwd) } inner = .ok v) :
    execQuery env data sc (.select (.mk c inner :: ctes) d sel frm wh gb hv ob lim off) =
    execQuery env (setKey c v data) sc (.select ctes d sel frm wh gb hv ob lim off) := by
  rw [execQuery, execQuery, prepare_select, prepare_select, evalCtes_fresh hc1 hc2 hc3 hin]

/-- **CTE chains**: an earlier CTE is visible to a later one — the second CTE's body is evaluated over
    the document that already holds the first one's result -/
theorem cte_chain (env : Env N) (data : Row N) (sc : Scope) (c1 c2 : String) (q1 q2 : Query N)
    (rest : List (Cte N)) (d : Bool) (sel : List (SelItem N)) (frm : From N) (wh : Expr N)
    (gb : List (String × List String)) (hv : Expr N) (ob : List (List String × Bool)) (lim off : Option Nat)
    (v1 v2 : Val N)
    (hn : c1 ≠ c2) (h1 : c1 ∉ cteNames rest) (h2 : c2 ∉ cteNames rest) (hf1 : c1 ∉ sc.fwd) (hf2 : c2 ∉ sc.fwd)
    (hb1 : c1 ∉ sc.bad) (hb2 : c2 ∉ sc.bad)
    (hq1 : execQuery env data { sc with fwd := c1 :: (c2 :: (cteNames rest ++ sc.fwd)) } q1 = .ok v1)
    (hq2 : execQuery env (setKey c1 v1 data) { sc with fwd := c2 :: (cteNames rest ++ sc.fwd) } q2 = .ok v2) :
    execQuery env data sc (.select (.mk c1 q1 :: .mk c2 q2 :: rest) d sel frm wh gb hv ob lim off) =
    execQuery env (setKey c2 v2 (setKey c1 v1 data)) sc (.select rest d sel frm wh gb hv ob lim off) := by
  rw [cte_substitution env data sc c1 q1 (.mk c2 q2 :: rest) d sel frm wh gb hv ob lim off v1
    (by simp [cteNames, hn, h1]) hf1 hb1 (by simpa [cteNames] using hq1)]
  exact cte_substitution env (setKey c1 v1 data) sc c2 q2 rest d sel frm wh gb hv ob lim off v2 h2 hf2 hb2 hq2

/-- **a WITH in front of a UNION** is handed to the branches: `WITH c AS (inner), rest… l UNION r` is prepared exactly
    like `WITH rest… l UNION r` over the document extended with `c ↦ (result of inner)` — both branches read
    the same materialised rows -/
theorem union_cte_substitution (env : Env N) (data : Row N) (sc : Scope) (c : String) (inner : Query N)
    (ctes : List (Cte N)) (l r : Query N) (d : Bool) (ob : List (List String × Bool)) (lim off : Option Nat)
    (v : Val N)
    (hc1 : c ∉ cteNames ctes) (hc2 : c ∉ sc.fwd) (hc3 : c ∉ sc.bad)
    (hin : execQuery env data { sc with fwd := c :: (cteNames ctes ++ sc.fwd) } inner = .ok v) :
    execQuery env data sc (.union (.mk c inner :: ctes) l r d ob lim off) =
    execQuery env (setKey c v data) sc (.union ctes l r d ob lim off) := by
  rw [execQuery, execQuery, prepare_union, prepare_union, evalCtes_fresh hc1 hc2 hc3 hin]

/-- **reading a CTE is reading a table**: `WITH c AS (inner) SELECT … FROM c …` equals the same SELECT over the
    document in which `c` is an ordinary table holding the rows `inner` returns -/
theorem cte_read_is_table_read (env : Env N) (data : Row N) (c : String) (inner : Query N) (d : Bool)
    (sel : List (SelItem N)) (alias : String) (wh : Expr N) (gb : List (String × List String)) (hv : Expr N)
    (ob : List (List String × Bool)) (lim off : Option Nat) (v : Val N)
    (hin : execQuery env data { bad := [], fwd := [c] } inner = .ok v) :
    execQuery env data {} (.select [.mk c inner] d sel (.table [c] alias c) wh gb hv ob lim off) =
    execQuery env (setKey c v data) {} (.select [] d sel (.table [c] alias c) wh gb hv ob lim off) :=
  cte_substitution env data {} c inner [] d sel _ wh gb hv ob lim off v (by simp [cteNames]) (by simp) (by simp)
    (by simpa [cteNames] using hin)

/-- **derived tables**: `FROM (inner) AS d` resolves to exactly what `FROM t AS d` resolves to when `t` holds the
    materialised result of `inner` — the rows AND the identifier `d` under which a join attributes ON columns to
    this side and stores its NULL extension (repair D52: a derived table had the empty identifier) -/
theorem derived_substitution (env : Env N) (data : Row N) (sc : Scope) (inner : Query N) (alias t : String)
    (v : Val N) (hv : v ≠ .null) (hin : execQuery env data sc inner = .ok v)
    (ht : t ∉ sc.fwd) (hb : t ∉ sc.bad) :
    evalFrom env data sc (.derived inner alias) =
    evalFrom env (setKey t v data) sc (.table [t] alias alias) := by
  rw [evalFrom_derived, hin, evalFrom_key ht hb, Val.get, lookup?_setKey_same]
  cases v with
  | null => exact absurd rfl hv
  | _ => rfl

/-- **a sub-query in the select list contributes exactly what it returns when run standalone on
    the current row extended with the `<-` marker** -/
theorem subquery_standalone (env : Env N) (ctx : Ctx N) (cur : Row N) (q : Query N) :
    evalExpr env ctx cur (.subq q) =
      (execQuery env (withMarker cur ctx.data) {} q).map IVal.v :=
  evalExpr_subq env ctx cur q

/-- the row an EXISTS sub-query sees for one element of the nested array: the element with the outer
    row's columns (and the marker) merged over it -/
def existsRow (elem cur' : Row N) : Row N := copyInto (copyInto [] elem) cur'

/-- **EXISTS** `(SELECT * FROM nested WHERE p)` is true iff some element of the row's nested array
    satisfies `p`, where `p` may mention the outer row's columns (they are merged into each element) -/
theorem exists_iff (env : Env N) (ctx : Ctx N) (cur : Row N) (t : String) (elems : List (Row N)) (p : Expr N)
    (ht : Val.get (withMarker cur ctx.data) t = .arr (elems.map Val.obj))
    (hwt : ∀ e ∈ elems, WT (existsRow e (withMarker cur ctx.data)) p) :
    evalExpr env ctx cur (.exists (.select [] false [.star] (.table [t] "" t) p [] (.bool true) [] none none)) =
      .ok (.v (.bool (elems.any (fun e => sem (existsRow e (withMarker cur ctx.data)) p)))) := by
  rw [evalExpr_exists env ctx cur _ (prepare_table ht),
    runSelect_flat (sem · p) (fun r hr => by
      obtain ⟨e, he, rfl⟩ := List.mem_map.mp hr
      exact whereStage_sem (hwt e he)),
    postStage_ungrouped (selStage_rows (fun r => copyInto [] (delKey "<-" r)) rfl fun _ _ => rfl),
    tailStage_plain]
  show Except.ok _ = _
  congr 3
  rw [Bool.eq_iff_iff]
  simp [List.filter_eq_nil_iff, existsRow]

end Genql.C07

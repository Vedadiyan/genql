/-
  Property C05 — ORDER BY sorts; LIMIT/OFFSET is the exact window and never fails.

  The comparator of `sort.go` (`lessKeys`), on rows whose sort keys are of one sortable kind per column (NULL allowed in
  every column), is a strict weak order: it is composed key by key (`SWO.lex`) from the order of one key, which is `ltV`
  or its converse with the NULLs put last (`SWO.topLast`).  Sorting by a strict weak order gives a sorted permutation.
-/
import Genql.Proofs.Order
import Genql.Model.Algo
namespace Genql.C05
open Genql
variable {N : Type} [Num N]

section swo
variable {α : Type} (less : α → α → Bool) (P : α → Prop)

/-- a strict weak order on the elements satisfying `P` -/
structure SWO : Prop where
  irrefl : ∀ a, P a → less a a = false
  trans : ∀ a b c, P a → P b → P c → less a b = true → less b c = true → less a c = true
  negtrans : ∀ a b c, P a → P b → P c → less a b = false → less b c = false → less a c = false

end swo

namespace SWO
variable {α β : Type} {less : α → α → Bool} {P : α → Prop}

theorem asymm (h : SWO less P) {a b : α} (ha : P a) (hb : P b) (hab : less a b = true) : less b a = false := by
  cases hba : less b a with
  | false => rfl
  | true => rw [← h.irrefl a ha, h.trans a b a ha hb ha hab hba]

theorem flip (h : SWO less P) : SWO (fun a b => less b a) P where
  irrefl := h.irrefl
  trans a b c ha hb hc h1 h2 := h.trans c b a hc hb ha h2 h1
  negtrans a b c ha hb hc h1 h2 := h.negtrans c b a hc hb ha h2 h1

theorem lt_of_lt_of_not_lt (h : SWO less P) {a b c : α} (ha : P a) (hb : P b) (hc : P c)
    (hab : less a b = true) (hcb : less c b = false) : less a c = true := by
  cases hac : less a c with
  | true => rfl
  | false => rw [← hab, h.negtrans a c b ha hc hb hac hcb]

theorem lt_of_not_lt_of_lt (h : SWO less P) {a b c : α} (ha : P a) (hb : P b) (hc : P c)
    (hba : less b a = false) (hbc : less b c = true) : less a c = true :=
  h.flip.lt_of_lt_of_not_lt hc hb ha hbc hba

theorem empty (h : ∀ a b, P a → less a b = false) : SWO less P where
  irrefl a ha := h a a ha
  trans a b c ha _ _ h1 := by rw [h a b ha] at h1; cases h1
  negtrans a b c ha _ _ _ _ := h a c ha

theorem of_total (irrefl : ∀ a, P a → less a a = false)
    (trans : ∀ a b c, P a → P b → P c → less a b = true → less b c = true → less a c = true)
    (total : ∀ a b, P a → P b → less a b = true ∨ a = b ∨ less b a = true) : SWO less P where
  irrefl := irrefl
  trans := trans
  negtrans a b c ha hb hc h1 h2 := by
    rcases total a b ha hb with h | rfl | h
    · rw [h1] at h; cases h
    · exact h2
    · rcases total b c hb hc with h' | rfl | h'
      · rw [h2] at h'; cases h'
      · exact h1
      · cases hac : less a c with
        | false => rfl
        | true => rw [← irrefl a ha, trans a c a ha hc ha hac (trans c b a hc hb ha h' h)]

theorem comap {Q : β → Prop} {less' : β → β → Bool} (f : β → α) (h : SWO less P)
    (hP : ∀ b, Q b → P (f b)) (hl : ∀ a b, Q a → Q b → less' a b = less (f a) (f b)) : SWO less' Q where
  irrefl a ha := by rw [hl a a ha ha]; exact h.irrefl _ (hP a ha)
  trans a b c ha hb hc := by
    rw [hl a b ha hb, hl b c hb hc, hl a c ha hc]; exact h.trans _ _ _ (hP a ha) (hP b hb) (hP c hc)
  negtrans a b c ha hb hc := by
    rw [hl a b ha hb, hl b c hb hc, hl a c ha hc]; exact h.negtrans _ _ _ (hP a ha) (hP b hb) (hP c hc)

/-- the elements marked `top` are put after all others, and are incomparable with one another -/
theorem topLast (h : SWO less P) (top : α → Bool) :
    SWO (fun a b => !top a && (top b || less a b)) (fun a => top a = true ∨ P a) := by
  have hP : ∀ {a}, top a = false → top a = true ∨ P a → P a := fun ht ha => ha.resolve_left (by simp [ht])
  refine ⟨fun a ha => ?_, fun a b c ha hb hc h1 h2 => ?_, fun a b c ha hb hc h1 h2 => ?_⟩
  · cases ht : top a with
    | true => rfl
    | false => simpa [ht] using h.irrefl a (hP ht ha)
  · -- an element on top is before nothing: `h1`, `h2` leave `a` and `b` below
    cases hta : top a with
    | true => simp [hta] at h1
    | false =>
      cases htb : top b with
      | true => simp [htb] at h2
      | false =>
        cases htc : top c with
        | true => simp
        | false =>
          simp [hta, htb, htc] at h1 h2 ⊢
          exact h.trans a b c (hP hta ha) (hP htb hb) (hP htc hc) h1 h2
  · cases hta : top a with
    | true => simp
    | false =>
      -- `h1`: `b` is below as well; then `h2`: so is `c`
      cases htb : top b with
      | true => simp [hta, htb] at h1
      | false =>
        cases htc : top c with
        | true => simp [htb, htc] at h2
        | false =>
          simp [hta, htb, htc] at h1 h2 ⊢
          exact h.negtrans a b c (hP hta ha) (hP htb hb) (hP htc hc) h1 h2

/-- **lexicographic product**: the first components decide; when they are incomparable the second
    components are consulted, but only on the classes marked `cont` (a mark that incomparable
    elements share); the unmarked classes stay incomparable whatever follows -/
theorem lex {lt₁ : α → α → Bool} {P₁ : α → Prop} {lt₂ : β → β → Bool} {P₂ : β → Prop}
    (h₁ : SWO lt₁ P₁) (h₂ : SWO lt₂ P₂) (cont : α → Bool)
    (hc : ∀ a b, P₁ a → P₁ b → lt₁ a b = false → lt₁ b a = false → cont a = cont b) :
    SWO (fun (p q : α × β) => lt₁ p.1 q.1 || (cont p.1 && !lt₁ q.1 p.1 && lt₂ p.2 q.2))
      (fun p => P₁ p.1 ∧ P₂ p.2) where
  irrefl p hp := by simp [h₁.irrefl p.1 hp.1, h₂.irrefl p.2 hp.2]
  trans p q r hp hq hr h1 h2 := by
    simp only [Bool.or_eq_true, Bool.and_eq_true, Bool.not_eq_true'] at h1 h2 ⊢
    rcases h1 with h1 | ⟨⟨c1, h1⟩, l1⟩
    · rcases h2 with h2 | ⟨⟨-, h2⟩, -⟩
      · exact .inl (h₁.trans _ _ _ hp.1 hq.1 hr.1 h1 h2)
      · exact .inl (h₁.lt_of_lt_of_not_lt hp.1 hq.1 hr.1 h1 h2)
    · rcases h2 with h2 | ⟨⟨-, h2⟩, l2⟩
      · exact .inl (h₁.lt_of_not_lt_of_lt hp.1 hq.1 hr.1 h1 h2)
      · exact .inr ⟨⟨c1, h₁.negtrans _ _ _ hr.1 hq.1 hp.1 h2 h1⟩, h₂.trans _ _ _ hp.2 hq.2 hr.2 l1 l2⟩
  negtrans p q r hp hq hr h1 h2 := by
    simp only [Bool.or_eq_false_iff, Bool.and_eq_false_iff, Bool.not_eq_false'] at h1 h2 ⊢
    refine ⟨h₁.negtrans _ _ _ hp.1 hq.1 hr.1 h1.1 h2.1, ?_⟩
    cases hqp : lt₁ q.1 p.1 with
    | true => exact .inl (.inr (h₁.lt_of_not_lt_of_lt hr.1 hq.1 hp.1 h2.1 hqp))
    | false =>
      cases hrq : lt₁ r.1 q.1 with
      | true => exact .inl (.inr (h₁.lt_of_lt_of_not_lt hr.1 hq.1 hp.1 hrq h1.1))
      | false =>
        -- `p`, `q`, `r` are pairwise incomparable in the first component, so they carry the same mark
        rw [hc p.1 q.1 hp.1 hq.1 h1.1 hqp]
        simp only [hqp, hrq, Bool.false_eq_true, or_false] at h1 h2
        rcases h1.2 with c | l1
        · rw [hc p.1 q.1 hp.1 hq.1 h1.1 hqp] at c; exact .inl (.inl c)
        · rcases h2.2 with c | l2
          · exact .inl (.inl c)
          · exact .inr (h₂.negtrans _ _ _ hp.2 hq.2 hr.2 l1 l2)

end SWO

/-- pure mirror of `lessKeys` (`cmpK` is `compare.Compare` made total) -/
def lessK : List Bool → List (Val N) → List (Val N) → Bool
  | asc :: ds, x :: xs, y :: ys =>
    if x.isNull then false
    else if y.isNull then true
    else
      let r := cmpK x y
      if r = 0 then lessK ds xs ys else r = (if asc then -1 else 1)
  | _, _, _ => false

theorem lessK_step (asc : Bool) (ds : List Bool) (x y : Val N) (xs ys : List (Val N)) :
    lessK (asc :: ds) (x :: xs) (y :: ys) =
      if x.isNull then false else if y.isNull then true
      else if cmpK x y = 0 then lessK ds xs ys else decide (cmpK x y = if asc then -1 else 1) := by
  rw [lessK]

theorem lessKeys_cons (a b : Val N) (asc : Bool) (rest : List (Val N × Val N × Bool)) :
    lessKeys ((a, b, asc) :: rest) =
      if a.isNull then .ok false else if b.isNull then .ok true
      else compareVal a b >>= fun c => if c = 0 then lessKeys rest else pure (decide (c = if asc then -1 else 1)) := by
  cases a <;> cases b <;> rfl

/-- the key list of a row is well-kinded: one sortable kind per column, or NULL -/
def KeysOK : List Kind → List (Val N) → Prop
  | [], [] => True
  | κ :: κs, x :: xs => Sortable κ ∧ (x = .null ∨ kindOf x = some κ) ∧ KeysOK κs xs
  | _, _ => False

def triples (ds : List Bool) (xs ys : List (Val N)) : List (Val N × Val N × Bool) :=
  match ds, xs, ys with
  | d :: ds, x :: xs, y :: ys => (x, y, d) :: triples ds xs ys
  | _, _, _ => []

/-- one sort key: NULL after everything else, otherwise `<` read in the key's direction -/
def keyLess (asc : Bool) (x y : Val N) : Bool :=
  !x.isNull && (y.isNull || if asc then ltV x y else ltV y x)

def KeyOK (κ : Kind) (x : Val N) : Prop := Sortable κ ∧ (x = .null ∨ kindOf x = some κ)

theorem keyLess_incomp {asc : Bool} {x y : Val N} (h1 : keyLess asc x y = false) (h2 : keyLess asc y x = false) :
    x.isNull = y.isNull := by
  unfold keyLess at h1 h2
  cases hx : x.isNull <;> cases hy : y.isNull
  · rfl
  · rw [hx, hy] at h1; cases h1
  · rw [hx, hy] at h2; cases h2
  · rfl

variable [LawfulNum N]

theorem ltV_swo (κ : Kind) : SWO (ltV (N := N)) (fun a => Sortable κ ∧ kindOf a = some κ) :=
  .of_total (fun _ _ => ltV_irrefl) (fun _ _ _ _ _ _ => ltV_trans) (fun _ _ ha hb => ltV_total ha.1 ha.2 hb.2)

theorem keyLess_swo (κ : Kind) (asc : Bool) : SWO (keyLess (N := N) asc) (KeyOK κ) := by
  have hP : ∀ x : Val N, KeyOK κ x → x.isNull = true ∨ Sortable κ ∧ kindOf x = some κ :=
    fun x hx => hx.2.imp (fun h => by rw [h]; rfl) (fun h => ⟨hx.1, h⟩)
  cases asc with
  | true => exact ((ltV_swo κ).topLast Val.isNull).comap id hP fun _ _ _ _ => rfl
  | false => exact ((ltV_swo κ).flip.topLast Val.isNull).comap id hP fun _ _ _ _ => rfl

theorem lessK_cons {κ : Kind} (asc : Bool) (ds : List Bool) {x y : Val N}
    (hx : KeyOK κ x) (hy : KeyOK κ y) {xs ys : List (Val N)} :
    lessK (asc :: ds) (x :: xs) (y :: ys) =
      (keyLess asc x y || (!x.isNull && !keyLess asc y x && lessK ds xs ys)) := by
  rw [lessK_step, keyLess, keyLess]
  obtain ⟨hκ, hx⟩ := hx
  rcases hx with rfl | hx
  · rfl
  · rw [isNull_of_kind hx]
    rcases hy.2 with rfl | hy
    · rfl
    · rw [isNull_of_kind hy]
      rcases (cmpK_cases hκ hx hy).2 with ⟨h, l1, l2⟩ | ⟨h, l1, l2⟩ | ⟨h, l1, l2⟩ <;>
        rw [h, l1, l2] <;> cases asc <;> rfl

/-- the comparator of `sort.go`, on well-kinded key lists, is a strict weak order: key by key it is the
    lexicographic product of the key orders, continued only past keys that are equal and not NULL -/
theorem lessK_swo (κs : List Kind) (ds : List Bool) :
    SWO (lessK (N := N) ds) (KeysOK κs) :=
  match κs, ds with
  | _, [] => .empty fun _ _ _ => rfl
  | [], _ :: _ => .empty fun
    | [], _, _ => rfl
    | _ :: _, _, h => h.elim
  | κ :: κs, asc :: ds =>
    ((keyLess_swo (N := N) κ asc).lex (lessK_swo κs ds) (fun x => !x.isNull)
      (fun _ _ _ _ h1 h2 => congrArg not (keyLess_incomp h1 h2))).comap
      (fun l => (l.headD .null, l.tail))
      (fun | _ :: _, ⟨hκ, hx, hxs⟩ => ⟨⟨hκ, hx⟩, hxs⟩ | [], h => h.elim)
      (fun
        | _ :: _, _ :: _, ⟨hκ, hx, _⟩, ⟨_, hy, _⟩ => lessK_cons asc ds ⟨hκ, hx⟩ ⟨hκ, hy⟩
        | [], _, h, _ => h.elim
        | _ :: _, [], _, h => h.elim)

theorem less_irrefl : ∀ (κs : List Kind) (ds : List Bool) (xs : List (Val N)), KeysOK κs xs →
    lessK ds xs xs = false :=
  fun κs ds => (lessK_swo κs ds).irrefl

theorem less_trans : ∀ (κs : List Kind) (ds : List Bool) (xs ys zs : List (Val N)),
    KeysOK κs xs → KeysOK κs ys → KeysOK κs zs →
    lessK ds xs ys = true → lessK ds ys zs = true → lessK ds xs zs = true :=
  fun κs ds => (lessK_swo κs ds).trans

/-- incomparability is transitive (stated as negative transitivity): with irreflexivity and
    transitivity this makes the comparator a strict weak order -/
theorem less_incomp_trans : ∀ (κs : List Kind) (ds : List Bool) (xs ys zs : List (Val N)),
    KeysOK κs xs → KeysOK κs ys → KeysOK κs zs →
    lessK ds xs ys = false → lessK ds ys zs = false → lessK ds xs zs = false :=
  fun κs ds => (lessK_swo κs ds).negtrans

-- `[LawfulNum N]` of the `variable` line is not used; the statement is kept as it stands
set_option linter.unusedSectionVars false in
/-- **NULLs last.** With a single sort key, a row whose key is NULL is never placed before a row
    whose key is not NULL, whatever the direction. -/
theorem nulls_last (asc : Bool) (x : Val N) (κ : Kind) (hx : kindOf x = some κ) :
    lessK [asc] [x] [.null] = true ∧ lessK [asc] [(.null : Val N)] [x] = false := by
  rw [lessK_step, lessK_step, isNull_of_kind hx]
  exact ⟨rfl, rfl⟩

theorem lessKeys_eq_lessK : ∀ (κs : List Kind) (ds : List Bool) (xs ys : List (Val N)),
    KeysOK κs xs → KeysOK κs ys → lessKeys (triples ds xs ys) = .ok (lessK ds xs ys) := by
  intro κs ds
  induction ds generalizing κs with
  | nil => intros; rfl
  | cons asc ds ih =>
    intro xs ys hxs hys
    match κs, xs, ys, hxs, hys with
    | [], [], _, _, _ => rfl
    | [], _ :: _, _, h, _ => exact h.elim
    | _ :: _, [], _, h, _ => exact h.elim
    | _ :: _, _, [], _, h => exact h.elim
    | κ :: κs, x :: xs, y :: ys, ⟨hκ, hx, hxs⟩, ⟨_, hy, hys⟩ =>
      show lessKeys ((x, y, asc) :: triples ds xs ys) = _
      rw [lessKeys_cons, lessK_step, ih κs xs ys hxs hys]
      rcases hx with rfl | hx
      · rfl
      · rw [isNull_of_kind hx]
        rcases hy with rfl | hy
        · rfl
        · rw [isNull_of_kind hy, (cmpK_cases hκ hx hy).1]
          exact (apply_ite Except.ok (cmpK x y = 0) _ _).symm

section sort
variable {α : Type} (less : α → α → Bool) (P : α → Prop)

theorem insertBy_perm (x : α) (ys : List α) : (insertBy less x ys).Perm (x :: ys) := by
  induction ys with
  | nil => exact List.Perm.refl _
  | cons y ys ih =>
    rw [insertBy]
    split
    · exact List.Perm.refl _
    · exact (List.Perm.cons y ih).trans (List.Perm.swap x y ys)

theorem sort_perm (xs : List α) : (insertSort less xs).Perm xs := by
  induction xs with
  | nil => exact List.Perm.refl _
  | cons x xs ih => exact (insertBy_perm less x _).trans (List.Perm.cons x ih)

/-- no inversion: an earlier element is never greater than a later one -/
def Sorted (l : List α) : Prop := l.Pairwise (fun a b => less b a = false)

theorem insertBy_sorted (h : SWO less P) (x : α) (hx : P x) (ys : List α) (hP : ∀ y ∈ ys, P y)
    (hs : Sorted less ys) : Sorted less (insertBy less x ys) := by
  induction ys with
  | nil => exact List.pairwise_singleton _ _
  | cons y ys ih =>
    have hy := hP y List.mem_cons_self
    have hys : ∀ z ∈ ys, P z := fun z hz => hP z (List.mem_cons_of_mem _ hz)
    obtain ⟨hy_le, hs'⟩ := List.pairwise_cons.mp hs
    rw [insertBy]
    split
    · next hlt =>
      -- `y` is not before `x`, and whatever follows `y` is not before `y`
      have hyx := h.asymm hx hy hlt
      refine List.Pairwise.cons (fun z hz => ?_) hs
      rcases List.mem_cons.mp hz with rfl | hz
      · exact hyx
      · exact h.negtrans z y x (hys z hz) hy hx (hy_le z hz) hyx
    · next hnlt =>
      refine List.Pairwise.cons (fun z hz => ?_) (ih hys hs')
      rcases List.mem_cons.mp ((insertBy_perm less x ys).mem_iff.mp hz) with rfl | hz
      · exact Bool.eq_false_iff.mpr hnlt
      · exact hy_le z hz

theorem sort_sorted (h : SWO less P) (xs : List α) (hP : ∀ x ∈ xs, P x) :
    Sorted less (insertSort less xs) := by
  induction xs with
  | nil => exact List.Pairwise.nil
  | cons x xs ih =>
    have hxs : ∀ y ∈ xs, P y := fun y hy => hP y (List.mem_cons_of_mem _ hy)
    exact insertBy_sorted less P h x (hP x List.mem_cons_self) _
      (fun y hy => hxs y ((sort_perm less xs).mem_iff.mp hy)) (ih hxs)

end sort

theorem window_never_fails {α : Type} (rs : List α) (offset limit : Option Nat) :
    ∃ out, window rs offset limit = .ok out ∧ out.length ≤ rs.length ∧ ∀ x ∈ out, x ∈ rs := by
  refine ⟨_, window_exact rs offset limit, ?_, ?_⟩
  · exact Nat.le_trans (List.length_take_le' _ _) (List.length_drop ▸ Nat.sub_le _ _)
  · intro x hx
    exact List.mem_of_mem_drop (List.mem_of_mem_take hx)

/-- the limit is clamped at the end of the list; an offset past the end gives no row -/
example : window [1, 2, 3, 4] (some 2) (some 3) = .ok [3, 4] := rfl
example : window [1, 2, 3, 4] (some 7) (some 3) = .ok [] := rfl
example : KeysOK (N := Int) [.num, .str] [.num 1, .str "a"] := by simp [KeysOK, Sortable, kindOf]

end Genql.C05

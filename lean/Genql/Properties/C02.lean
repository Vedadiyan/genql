/-
  Property C02 — projection: one output row per kept row, the right keys, the right values,
  nothing from other rows, nothing engine-internal.
-/
import Genql.Proofs.Assoc
import Genql.Proofs.Eval
import Genql.Proofs.ValEq
import Genql.Inst.IntNum
-- `select_length`, `select_plain` take the instance arguments of the `variable` line without using them;
-- their statements are kept as they stand
set_option linter.unusedSectionVars false
namespace Genql.C02
open Genql
variable {N : Type} [Num N]

/-- **exactly one output object per row that reached the select stage** -/
theorem select_length (one : Row N → R (Row N)) (rs out : List (Val N))
    (h : selectRowsWith one none rs = .ok out) : out.length = rs.length :=
  mapE_ok_length h

/-- **row locality**: output row `i` is the projection of input row `i` and of nothing else —
    replacing every other row leaves it unchanged -/
theorem select_row_local (one : Row N → R (Row N)) (rs rs' out out' : List (Val N))
    (h : selectRowsWith one none rs = .ok out) (h' : selectRowsWith one none rs' = .ok out')
    (i : Nat) (hi : i < rs.length) (hi' : i < rs'.length) (hsame : rs[i] = rs'[i]) :
    out[i]'(by rw [select_length one rs out h]; exact hi) =
      out'[i]'(by rw [select_length one rs' out' h']; exact hi') := by
  have e1 := mapE_ok_get h i hi (by rw [select_length one rs out h]; exact hi)
  have e2 := mapE_ok_get h' i hi' (by rw [select_length one rs' out' h']; exact hi')
  rw [hsame] at e1
  rw [e1] at e2
  exact Except.ok.inj e2

/-- each output row is `SelectExpr` of its input row -/
theorem select_rowwise (one : Row N → R (Row N)) (rows : List (Row N)) (out : List (Val N))
    (h : selectRowsWith one none (rows.map Val.obj) = .ok out) :
    ∀ (i : Nat) (hi : i < rows.length), ∃ row, one rows[i] = .ok row ∧
      out[i]'(by rw [select_length one _ out h]; simpa using hi) = .obj row := by
  intro i hi
  have e := mapE_ok_get h i (by simpa using hi) (by rw [select_length one _ out h]; simpa using hi)
  rw [List.getElem_map] at e
  obtain ⟨row, hrow, e⟩ := bind_eq_ok e
  exact ⟨row, hrow, (Except.ok.inj e).symm⟩

/-- an item "writes" (its expression evaluates to something other than the omit marker or a fuse) -/
def Writes (env : Env N) (ctx : Ctx N) (cur : Row N) (e : Expr N) : Prop :=
  ∀ x, evalExpr env ctx cur e = .ok x → x ≠ .omit ∧ ∀ fs, x ≠ .fuse fs

/-- the keys a select list names on a row: aliases / column names, and for `*` the source keys -/
def selKeys (cur : Row N) : List (SelItem N) → List String
  | [] => []
  | .star :: rest => ((delKey "<-" cur).map (·.1)) ++ selKeys cur rest
  | .item _ key _ :: rest => key :: selKeys cur rest

theorem evalSel_item_writes {env : Env N} {ctx : Ctx N} {cur : Row N} {e : Expr N} (hw : Writes env ctx cur e)
    (key alias : String) (rest : List (SelItem N)) (acc : Row N) :
    evalSel env ctx cur (.item e key alias :: rest) acc =
      evalExpr env ctx cur e >>= valueOf cur >>= fun v => evalSel env ctx cur rest (setKey key v acc) := by
  rw [evalSel_item, bind_assoc]
  cases hx : evalExpr env ctx cur e with
  | error _ => rfl
  | ok x =>
    obtain ⟨ho, hf⟩ := hw x hx
    cases x with
    | «omit» => exact absurd rfl ho
    | fuse fs => exact absurd rfl (hf fs)
    | _ => rfl

/-- what a select list whose items all write does to the accumulator: it copies in a list of pairs, keyed by `selKeys`
    (an item its one pair, `*` the row's own) -/
theorem evalSel_copies {env : Env N} {ctx : Ctx N} {cur : Row N} {sel : List (SelItem N)} {acc out : Row N}
    (hw : ∀ e key alias, SelItem.item e key alias ∈ sel → Writes env ctx cur e)
    (h : evalSel env ctx cur sel acc = .ok out) : ∃ ps, ps.map (·.1) = selKeys cur sel ∧ out = copyInto acc ps := by
  induction sel generalizing acc with
  | nil => cases h; exact ⟨[], rfl, rfl⟩
  | cons it rest ih =>
    have hw' := fun e key alias hm => hw e key alias (List.mem_cons_of_mem _ hm)
    cases it with
    | star =>
      obtain ⟨ps, hps, rfl⟩ := ih hw' h
      exact ⟨delKey "<-" cur ++ ps, List.map_append.trans (congrArg (_ ++ ·) hps), List.foldl_append.symm⟩
    | item e key alias =>
      rw [evalSel_item_writes (hw e key alias List.mem_cons_self)] at h
      obtain ⟨v, -, h⟩ := bind_eq_ok h
      obtain ⟨ps, hps, rfl⟩ := ih hw' h
      exact ⟨(key, v) :: ps, congrArg (key :: ·) hps, rfl⟩

/-- **the keys of an output row are exactly the select list's aliases / column names (all source
    keys for `*`)**, for select lists whose items produce a value -/
theorem select_keys (env : Env N) (ctx : Ctx N) (cur : Row N) :
    ∀ (sel : List (SelItem N)) (acc out : Row N),
      (∀ e key alias, SelItem.item e key alias ∈ sel → Writes env ctx cur e) →
      evalSel env ctx cur sel acc = .ok out →
      ∀ k, hasKey k out = (hasKey k acc || decide (k ∈ selKeys cur sel)) := by
  intro sel acc out hw h k
  obtain ⟨ps, hps, rfl⟩ := evalSel_copies hw h
  rw [hasKey_copyInto, ← hps]
  simp only [mem_keys_iff, Bool.decide_eq_true]

/-- keys the select list does not name keep whatever they held before (frame) -/
theorem evalSel_frame (env : Env N) (ctx : Ctx N) (cur : Row N) :
    ∀ (sel : List (SelItem N)) (acc out : Row N),
      (∀ e key alias, SelItem.item e key alias ∈ sel → Writes env ctx cur e) →
      evalSel env ctx cur sel acc = .ok out →
      ∀ k, k ∉ selKeys cur sel → lookup? k out = lookup? k acc := by
  intro sel acc out hw h k hk
  obtain ⟨ps, hps, rfl⟩ := evalSel_copies hw h
  exact lookup?_copyInto_other (hps ▸ hk) acc

/-- **every value equals the meaning of its expression on that row**: the column of an item that
    is not overwritten by a later item holds `ValueOf(Expr(item))` evaluated on this row -/
theorem select_values (env : Env N) (ctx : Ctx N) (cur : Row N) (pre post : List (SelItem N))
    (e : Expr N) (key alias : String) (acc out : Row N)
    (hw : ∀ e' key' alias', SelItem.item e' key' alias' ∈ pre ++ .item e key alias :: post → Writes env ctx cur e')
    (hlast : key ∉ selKeys cur post)
    (h : evalSel env ctx cur (pre ++ .item e key alias :: post) acc = .ok out) :
    ∃ x v, evalExpr env ctx cur e = .ok x ∧ valueOf cur x = .ok v ∧ lookup? key out = some v := by
  rw [evalSel_append] at h
  obtain ⟨mid, -, h⟩ := bind_eq_ok h
  rw [evalSel_item_writes (hw e key alias (by simp))] at h
  obtain ⟨v, hv, h⟩ := bind_eq_ok h
  obtain ⟨x, hx, hxv⟩ := bind_eq_ok hv
  refine ⟨x, v, hx, hxv, ?_⟩
  rw [evalSel_frame env ctx cur post _ out (fun e' key' alias' hm => hw e' key' alias' (by simp [hm])) h key hlast,
    lookup?_setKey_same]

/-- a reference to a missing key yields NULL -/
theorem missing_is_null (env : Env N) (ctx : Ctx N) (hh : ctx.hard = false) (cur : Row N) (k : String)
    (hk : lookup? k cur = none) :
    ∃ x, evalExpr env ctx cur (.col [k]) = .ok x ∧ valueOf cur x = .ok .null := by
  obtain ⟨x, hx, hv⟩ := bind_eq_ok (evalExpr_col_value env ctx cur hh k)
  exact ⟨x, hx, by rw [hv, Val.get, hk]⟩

/-- a binary arithmetic operator with a NULL operand yields NULL -/
theorem binop_null (env : Env N) (ctx : Ctx N) (cur : Row N) (op : BinOp) (a b : Expr N) :
    (∀ x, evalExpr env ctx cur a = .ok x → valueOf cur x = .ok .null →
      ∃ y, evalExpr env ctx cur (.bin op a b) = .ok y ∧ valueOf cur y = .ok .null) ∧
    (∀ x n y, evalExpr env ctx cur a = .ok x → valueOf cur x = .ok (.num n) →
      evalExpr env ctx cur b = .ok y → valueOf cur y = .ok .null →
      ∃ z, evalExpr env ctx cur (.bin op a b) = .ok z ∧ valueOf cur z = .ok .null) := by
  constructor
  · intro x hx hv
    exact ⟨.fptr none, by rw [evalExpr_bin, hx, C19.ok_bind, hv]; rfl, rfl⟩
  · intro x n y hx hv hy hvy
    exact ⟨.fptr none, by rw [evalExpr_bin, hx, C19.ok_bind, hv, C19.ok_bind, hy, C19.ok_bind, hvy]; rfl, rfl⟩

omit [Num N] in
theorem marker_not_named (cur : Row N) (sel : List (SelItem N))
    (hk : ∀ e key alias, SelItem.item e key alias ∈ sel → key ≠ "<-") : "<-" ∉ selKeys cur sel := by
  induction sel with
  | nil => exact List.not_mem_nil
  | cons it rest ih =>
    have ih' := ih fun e key alias hm => hk e key alias (List.mem_cons_of_mem _ hm)
    cases it with
    | star => exact fun hm => (List.mem_append.mp hm).elim (not_mem_keys_delKey "<-" cur) ih'
    | item e key alias =>
      exact fun hm => (List.mem_cons.mp hm).elim (fun e' => hk e key alias List.mem_cons_self e'.symm) ih'

/-- **no engine-internal key**: the navigation marker `<-` never reaches an output row (star
    projections drop it; an item can only produce it through an explicit alias `<-`) -/
theorem select_no_marker (env : Env N) (ctx : Ctx N) (cur : Row N) (sel : List (SelItem N)) (out : Row N)
    (hw : ∀ e key alias, SelItem.item e key alias ∈ sel → Writes env ctx cur e)
    (hk : ∀ e key alias, SelItem.item e key alias ∈ sel → key ≠ "<-")
    (h : evalSel env ctx cur sel [] = .ok out) : lookup? "<-" out = none := by
  rw [evalSel_frame env ctx cur sel [] out hw h "<-" (marker_not_named cur sel hk)]
  rfl

/-- **plain values only**: whatever `Expr` returns (column reference, literal wrapper, `*float64`),
    the value `SelectExpr` stores is obtained through `ValueOf` and is a plain JSON-like value — in the
    model this is the typing of `Row N`; the content is that `ValueOf` resolves every wrapper -/
theorem select_plain (cur : Row N) (x : IVal N) (hx : x ≠ .omit) :
    (∃ v : Val N, valueOf cur x = .ok v) ∨ (∃ e, valueOf cur x = .error e ∧ ∃ p, x = .col p) := by
  -- besides the omit marker only a column can fail: on every other shape `valueOf` reduces to `.ok _`, against `h`
  cases h : valueOf cur x with
  | ok v => exact .inl ⟨v, rfl⟩
  | error e =>
    cases x with
    | col p => exact .inr ⟨e, rfl, p, rfl⟩
    | «omit» => exact absurd rfl hx
    | fptr o => cases o <;> cases h
    | _ => cases h

/-- the hypotheses are satisfiable: a two-item list over a concrete row -/
example : evalSel (N := Int) ⟨.none, none, none⟩ ⟨[], false, false, [], 0⟩ [("a", .num 2)]
    [.item (.col ["a"]) "a" "", .item (.bin .plus (.col ["a"]) (.num 10)) "c" "c"] []
    = .ok [("a", .num 2), ("c", .num 12)] := by decide +kernel

end Genql.C02

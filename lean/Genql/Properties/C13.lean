/-
  C13 — concurrent queries: no data race on the process-wide selector cache, no cross-talk, no
  deadlock, for ALL interleavings.

  Two machines of `Model/Conc` (their own lemmas: `Proofs/Conc`), each with its invariant.  Threads as lists of lock /
  unlock / read / write (`step`, `Reach`): well-locked threads keep `LockInv`, from which race freedom, mutual exclusion
  and, with a single mutex, deadlock freedom are read off; `Obligations/C13` checks well-lockedness on the paths
  extracted from the Go source.
  The `ExecReader` protocol with its cache (`cstep`, `CReach`) keeps `CInv`: the cache is a sub-graph of `parse`, and
  every call returns what it returns alone.
-/
import Genql.Proofs.Conc

namespace Genql.C13
open Genql.Conc

/-! ### Threads and locks -/

section Lock
variable {guard : String → Option String}

/-- "The holder of `m` is the only thread inside a critical section of `m`", together with
    well-lockedness of every thread's remaining program. -/
structure LockInv (guard : String → Option String) (s : St) : Prop where
  wl : ∀ t, WLfrom guard (s.held t) (s.prog t) = true
  own : ∀ t m, m ∈ s.held t ↔ s.holder m = some t

/- On the components: `exact` against a goal `LockInv guard ⟨…, …, …⟩` through the fields' projections of the
   structure literal is several times slower. -/
theorem LockInv.intro {holder : String → Option Nat} {prog : Nat → List Instr} {held : Nat → List String}
    (wl : ∀ t, WLfrom guard (held t) (prog t) = true)
    (own : ∀ t m, m ∈ held t ↔ holder m = some t) : LockInv guard ⟨holder, prog, held⟩ := ⟨wl, own⟩

section
variable {holder : String → Option Nat} {held : Nat → List String} {t : Nat} {m : String}

/-- `own` survives `t` taking the free mutex `m` … -/
theorem own_lock (own : ∀ u k, k ∈ held u ↔ holder k = some u) (hfree : holder m = none) (u : Nat) (k : String) :
    k ∈ upd held t (m :: held t) u ↔ updS holder m (some t) k = some u := by
  unfold upd updS
  by_cases hk : k = m <;> by_cases hu : u = t
  · simp [hk, hu]
  · -- the case with content: `m` was free, so it is on no other thread's list
    simp [hk, hu, own, hfree, Ne.symm hu]
  all_goals simp [hk, hu, own]

/-- … and `t` releasing the mutex `m` it holds. -/
theorem own_unlock (own : ∀ u k, k ∈ held u ↔ holder k = some u) (hown : holder m = some t) (u : Nat) (k : String) :
    k ∈ upd held t ((held t).filter (· != m)) u ↔ updS holder m none k = some u := by
  unfold upd updS
  by_cases hk : k = m <;> by_cases hu : u = t
  · simp [hk, hu]
  · -- the case with content: `t` holds `m`, so it is on no other thread's list
    simp [hk, hu, own, hown, Ne.symm hu]
  all_goals simp [hk, hu, own]
end

theorem inv_step {s s' : St} {t : Nat}
    (h : LockInv guard s) (st : step s t = some s') : LockInv guard s' := by
  have hw := h.wl t
  -- `t` goes on with `p` holding `hd`; every other thread is where it was
  have wl : ∀ {hd p}, WLfrom guard hd p = true →
      ∀ u, WLfrom guard (upd s.held t hd u) (upd s.prog t p u) = true := fun ht u => by
    by_cases hu : u = t
    · rw [hu, upd_same, upd_same]; exact ht
    · rw [upd_ne hu, upd_ne hu]; exact h.wl u
  revert st
  fun_cases step s t <;> intro st <;> cases st
  · rename_i m p hp hfree
    rw [hp, wl_lock] at hw
    exact .intro (wl hw.2) (own_lock h.own hfree)
  · rename_i m p hp
    rw [hp, wl_unlock] at hw
    exact .intro (wl hw.2) (own_unlock h.own ((h.own t m).1 hw.1))
  · rename_i x p hp
    rw [hp, wl_read] at hw
    exact .intro (upd_self s.held t ▸ wl hw.2) h.own
  · rename_i x p hp
    rw [hp, wl_write] at hw
    exact .intro (upd_self s.held t ▸ wl hw.2) h.own

theorem inv_reach {prog : Nat → List Instr} {s : St}
    (hp : ∀ t, WL guard (prog t) = true) (r : Reach (start prog) s) : LockInv guard s := by
  induction r with
  | refl => exact ⟨hp, fun t m => by simp [start]⟩
  | step _ st ih => exact inv_step ih st

theorem access_needs_guard {s : St} (h : LockInv guard s)
    {t : Nat} {x m : String} {w : Bool} (ha : AtAccess s t x w) (hg : guard x = some m) :
    s.holder m = some t := by
  obtain ⟨p, hp⟩ := ha
  have hw := h.wl t
  rw [hp] at hw
  have : guardHeld guard (s.held t) x = true := by
    cases w
    · exact (wl_read.1 hw).1
    · exact (wl_write.1 hw).1
  exact (h.own t m).1 ((guardHeld_some hg).1 this)

theorem inv_no_race {s : St} (h : LockInv guard s) :
    ¬ Race guard s := by
  rintro ⟨t, u, x, w1, w2, hne, hg, ht, hu, _⟩
  obtain ⟨m, hm⟩ := Option.isSome_iff_exists.1 hg
  exact hne (Option.some.inj ((access_needs_guard h ht hm).symm.trans (access_needs_guard h hu hm)))

theorem idle_holds_nothing {s : St} (h : LockInv guard s)
    {t : Nat} (ht : s.prog t = []) (m : String) : s.holder m ≠ some t := fun hh => by
  have hw := h.wl t
  rw [ht, wl_nil] at hw
  have hm := (h.own t m).2 hh
  rw [hw] at hm
  cases hm

/-- **Data-race freedom.**  If every thread is well locked then no interleaving reaches a state
    in which two different threads are both about to access the same guarded location, one of
    them writing. -/
theorem well_locked_race_free (guard : String → Option String) (prog : Nat → List Instr)
    (hp : ∀ t, WL guard (prog t) = true) :
    ∀ s, Reach (start prog) s → ¬ Race guard s :=
  fun _ r => inv_no_race (inv_reach hp r)

theorem well_locked_race_free_run (guard : String → Option String) (prog : Nat → List Instr)
    (hp : ∀ t, WL guard (prog t) = true) (sched : List Nat) :
    ¬ Race guard (run (start prog) sched) :=
  well_locked_race_free guard prog hp _ (run_reach _ sched _ .refl)

/-- **Mutual exclusion**: two threads inside a critical section of the same mutex are the same
    thread, and the mutex's holder is that thread. -/
theorem holder_only_thread_inside (guard : String → Option String) (prog : Nat → List Instr)
    (hp : ∀ t, WL guard (prog t) = true) {s : St} (r : Reach (start prog) s) (m : String) :
    (∀ t, m ∈ s.held t ↔ s.holder m = some t) ∧
    (∀ t u, m ∈ s.held t → m ∈ s.held u → t = u) := by
  have h := inv_reach hp r
  exact ⟨fun t => h.own t m, fun t u a b =>
    Option.some.inj (((h.own t m).1 a).symm.trans ((h.own u m).1 b))⟩

/-- No `fatal error: sync: unlock of unlocked mutex`: a thread about to `unlock m` holds `m`. -/
theorem unlock_only_by_holder (guard : String → Option String) (prog : Nat → List Instr)
    (hp : ∀ t, WL guard (prog t) = true) {s : St} (r : Reach (start prog) s)
    {t : Nat} {m : String} {p : List Instr} (hu : s.prog t = .unlock m :: p) :
    s.holder m = some t := by
  have h := inv_reach hp r
  exact (h.own t m).1 (wl_unlock.1 (hu ▸ h.wl t)).1

/-- No mutex stays locked once every goroutine has returned. -/
theorem finished_all_released (guard : String → Option String) (prog : Nat → List Instr)
    (hp : ∀ t, WL guard (prog t) = true) {s : St} (r : Reach (start prog) s)
    (hf : Finished s) : ∀ m, s.holder m = none :=
  fun m => (Option.eq_none_or_eq_some _).resolve_right fun ⟨t, hh⟩ => idle_holds_nothing (inv_reach hp r) (hf t) m hh

/-- Whoever holds a mutex can step, unless the next thing it does is lock another one: it has not finished, and it
    does not lock what it holds. -/
theorem holder_enabled {s : St} (h : LockInv guard s) {u : Nat} {m : String} (hu : s.holder m = some u)
    (hs : ∀ m' p, s.prog u = .lock m' :: p → m' = m) : ∃ s', step s u = some s' := by
  cases hpu : s.prog u with
  | nil => exact absurd hu (idle_holds_nothing h hpu m)
  | cons j q =>
    refine step_enabled hpu ?_
    rintro m' rfl
    obtain rfl := hs m' q hpu
    exact absurd ((h.own u m').2 hu) (wl_lock.1 (hpu ▸ h.wl u)).1

/-- **No deadlock.**  With a single mutex and well-locked threads, in every reachable state
    either every thread has finished or some thread is enabled. -/
theorem no_deadlock_single_lock (guard : String → Option String) (m0 : String)
    (prog : Nat → List Instr) (hp : ∀ t, WL guard (prog t) = true)
    (h1 : ∀ t, SingleLock m0 (prog t)) :
    ∀ s, Reach (start prog) s → Finished s ∨ ∃ t s', step s t = some s' := by
  intro s r
  have hs : ∀ {t m p}, s.prog t = .lock m :: p → m = m0 := fun {t m p} e =>
    h1 t m ((reach_suffix r t).subset (e ▸ List.mem_cons_self))
  by_cases hf : Finished s
  · exact .inl hf
  · obtain ⟨t, ht⟩ := Classical.not_forall.1 hf
    refine .inr ?_
    -- the holder of `m0` can step; if there is none, any thread that has not finished can
    cases hm : s.holder m0 with
    | some u => exact ⟨u, holder_enabled (inv_reach hp r) hm fun _ _ e => hs e⟩
    | none =>
      cases hpt : s.prog t with
      | nil => exact absurd hpt ht
      | cons i p => exact ⟨t, step_enabled hpt fun m e => hs (e ▸ hpt) ▸ hm⟩

end Lock

/-! ### The `ExecReader` protocol and its cache

The program counter `Pc` follows the statements `ExecReader#0` … `#6` of the Go text as `Obligations/PinC09` pins it. -/

section Cache
variable {D P R : Type}

/-- The cache is a sub-graph of `parse`. -/
def ParseGraph (parse : String → Option P) (c : Cache P) : Prop :=
  ∀ k v, c.get k = some v → parse k = some v

theorem graph_put {parse : String → Option P} {c : Cache P} (hg : ParseGraph parse c)
    {k : String} {p : P} (hp : parse k = some p) : ParseGraph parse (c.put k p) := by
  intro k' v hv
  rw [get_put] at hv
  split at hv
  · next e => cases hv; exact e ▸ hp
  · exact hg k' v hv

/-- `t` is between `mut.Lock()` and `mut.Unlock()`. -/
def Inside : Pc P R → Prop
  | .locked | .miss | .hit | .failUnlock | .gotUnlock _ => True
  | _ => False

structure CInv (parse : String → Option P) (eval : P → D → R) (init s : CSt D P R) : Prop where
  graph : ParseGraph parse s.cache
  same : ∀ t, (s.call t).doc = (init.call t).doc ∧ (s.call t).key = (init.call t).key
  inside : ∀ t, Inside (s.call t).pc ↔ s.mutHolder = some t
  hit : ∀ t, (s.call t).pc = .hit → ∃ v, s.cache.get (s.call t).key = some v
  miss : ∀ t, (s.call t).pc = .miss → s.cache.get (s.call t).key = none
  fail : ∀ t, (s.call t).pc = .failUnlock → parse (s.call t).key = none
  got : ∀ t p, ((s.call t).pc = .gotUnlock p ∨ (s.call t).pc = .evalNext p) →
    parse (s.call t).key = some p
  done : ∀ t r, (s.call t).pc = .done r → r = alone parse eval (s.call t).doc (s.call t).key

/-- A legal initial state: any cache that is a sub-graph of `parse` (e.g. empty, or whatever
    earlier queries left there), nobody holds `mut`, every call is at its first instruction. -/
structure CInit (parse : String → Option P) (init : CSt D P R) : Prop where
  graph : ParseGraph parse init.cache
  free : init.mutHolder = none
  fresh : ∀ t, (init.call t).pc = .start

variable {parse : String → Option P} {eval : P → D → R}

/-- What `CInv` says of a single call with a given program counter: the fields `hit` … `done` read as one
    case distinction, so that a step has ONE thing to show about the call that moved. -/
def CallInv (parse : String → Option P) (eval : P → D → R) (cache : Cache P) (c : Call D P R) : Prop :=
  match c.pc with
  | .hit => ∃ v, cache.get c.key = some v
  | .miss => cache.get c.key = none
  | .failUnlock => parse c.key = none
  | .gotUnlock p | .evalNext p => parse c.key = some p
  | .done r => r = alone parse eval c.doc c.key
  | .start | .locked => True

theorem cinv_iff {init s : CSt D P R} :
    CInv parse eval init s ↔ ParseGraph parse s.cache ∧ ∀ t,
      ((s.call t).doc = (init.call t).doc ∧ (s.call t).key = (init.call t).key) ∧
      (Inside (s.call t).pc ↔ s.mutHolder = some t) ∧ CallInv parse eval s.cache (s.call t) := by
  constructor
  · intro h
    refine ⟨h.graph, fun t => ⟨h.same t, h.inside t, ?_⟩⟩
    unfold CallInv
    split
    · exact h.hit t ‹_›
    · exact h.miss t ‹_›
    · exact h.fail t ‹_›
    · exact h.got t _ (.inl ‹_›)
    · exact h.got t _ (.inr ‹_›)
    · exact h.done t _ ‹_›
    · trivial
    · trivial
  · intro ⟨hg, h⟩
    have at_pc : ∀ t pc, (s.call t).pc = pc → CallInv parse eval s.cache ⟨(s.call t).doc, (s.call t).key, pc⟩ :=
      fun t pc e => e ▸ (h t).2.2
    exact ⟨hg, fun t => (h t).1, fun t => (h t).2.1, fun t => at_pc t _, fun t => at_pc t _, fun t => at_pc t _,
      fun t p e => e.elim (at_pc t _) (at_pc t _), fun t r => at_pc t _⟩

/-- Only a call that is inside looks at the cache. -/
theorem CallInv.frame {cache cache' : Cache P} {c : Call D P R}
    (g : CallInv parse eval cache c) (hc : Inside c.pc → cache' = cache) : CallInv parse eval cache' c := by
  obtain ⟨doc, key, pc⟩ := c
  cases pc with
  | hit | miss => exact hc trivial ▸ g
  | _ => exact g

theorem cinv_init {init : CSt D P R} (h : CInit parse init) : CInv parse eval init init :=
  cinv_iff.2 ⟨h.graph, fun t => ⟨⟨rfl, rfl⟩, by simp [h.fresh t, h.free, Inside], by simp [CallInv, h.fresh t]⟩⟩

/-- Re-establishment of the invariant after call `t` moves to `pc'`.  For the other calls: either the step changes
    neither the holder of `mut` nor the cache, or `t` has `mut` to itself before and after (held by `t` or free), and
    then every other call is outside, where the cache does not matter. -/
theorem cinv_goto {init s : CSt D P R}
    (h : CInv parse eval init s) (t : Nat) (pc' : Pc P R) (mh' : Option Nat) (cache' : Cache P)
    (hgraph : ParseGraph parse cache')
    (hctl : (mh' = s.mutHolder ∧ cache' = s.cache) ∨
      ((s.mutHolder = none ∨ s.mutHolder = some t) ∧ (mh' = none ∨ mh' = some t)))
    (hins : Inside pc' ↔ mh' = some t)
    (hcall : CallInv parse eval cache' { s.call t with pc := pc' }) :
    CInv parse eval init ⟨mh', cache', upd s.call t { s.call t with pc := pc' }⟩ :=
  cinv_iff.2 ⟨hgraph, fun u => by
    obtain ⟨hsame, hin, hg⟩ := (cinv_iff.1 h).2 u
    dsimp only
    by_cases hu : u = t
    · subst hu; rw [upd_same]; exact ⟨hsame, hins, hcall⟩
    · rw [upd_ne hu]
      have ne : ∀ {a : Option Nat}, a = none ∨ a = some t → a ≠ some u := fun ha e => by
        rcases ha with rfl | rfl
        · cases e
        · exact hu (Option.some.inj e).symm
      rcases hctl with ⟨rfl, rfl⟩ | ⟨hb, ha⟩
      · exact ⟨hsame, hin, hg⟩
      · have out : ¬ Inside (s.call u).pc := fun hi => ne hb (hin.1 hi)
        exact ⟨hsame, iff_of_false out (ne ha), hg.frame fun hi => (out hi).elim⟩⟩

theorem cinv_step {init s s' : CSt D P R} {t : Nat}
    (h : CInv parse eval init s) (st : cstep parse eval s t = some s') :
    CInv parse eval init s' := by
  have hm : Inside (s.call t).pc → s.mutHolder = some t := (h.inside t).1
  revert st
  fun_cases cstep parse eval s t <;> intro st <;> cases st
  · -- start: Lock
    rename_i hpc hfree
    exact cinv_goto h t .locked (some t) s.cache h.graph (.inr ⟨.inl hfree, .inr rfl⟩)
      (iff_of_true trivial rfl) trivial
  · -- locked: test `cache[selector]`
    rename_i hpc hget
    exact cinv_goto h t .miss _ _ h.graph (.inl ⟨rfl, rfl⟩) (iff_of_true trivial (hm (hpc ▸ trivial))) hget
  · rename_i hpc v hget
    exact cinv_goto h t .hit _ _ h.graph (.inl ⟨rfl, rfl⟩) (iff_of_true trivial (hm (hpc ▸ trivial))) ⟨v, hget⟩
  · -- miss: parse, store
    rename_i hpc hparse
    exact cinv_goto h t .failUnlock _ _ h.graph (.inl ⟨rfl, rfl⟩) (iff_of_true trivial (hm (hpc ▸ trivial))) hparse
  · rename_i hpc p hparse
    have hm := hm (hpc ▸ trivial)
    exact cinv_goto h t .hit _ _ (graph_put h.graph hparse) (.inr ⟨.inr hm, .inr hm⟩)
      (iff_of_true trivial hm) ⟨p, get_put_same _ _ _⟩
  · -- hit: `parsed := cache[selector]`
    rename_i hpc p hget
    exact cinv_goto h t (.gotUnlock p) _ _ h.graph (.inl ⟨rfl, rfl⟩) (iff_of_true trivial (hm (hpc ▸ trivial)))
      (h.graph _ _ hget)
  · -- failUnlock
    rename_i hpc
    exact cinv_goto h t (.done none) none _ h.graph (.inr ⟨.inr (hm (hpc ▸ trivial)), .inl rfl⟩)
      (iff_of_false id nofun) (by simp [CallInv, alone, h.fail t hpc])
  · -- gotUnlock
    rename_i p hpc
    exact cinv_goto h t (.evalNext p) none _ h.graph (.inr ⟨.inr (hm (hpc ▸ trivial)), .inl rfl⟩)
      (iff_of_false id nofun) (h.got t p (.inl hpc))
  · -- evalNext
    rename_i p hpc
    exact cinv_goto h t (.done (some (eval p (s.call t).doc))) _ _ h.graph (.inl ⟨rfl, rfl⟩)
      (iff_of_false id fun hm => (hpc ▸ (h.inside t).2 hm : Inside (.evalNext p)))
      (by simp [CallInv, alone, h.got t p (.inr hpc)])

theorem cinv_reach {init s : CSt D P R}
    (h0 : CInit parse init) (r : CReach parse eval init s) : CInv parse eval init s := by
  induction r with
  | refl => exact cinv_init h0
  | step _ st ih => exact cinv_step ih st

/-- **The cache is a sub-graph of `parse`** in every reachable state of every interleaving of any
    number of `ExecReader` calls; consequently **no cross-talk**: a call that has returned has
    returned exactly what it returns when run alone — `eval (parse key) doc`, or the parse
    error — whatever the other calls did in between. -/
theorem cache_is_parse_graph (parse : String → Option P) (eval : P → D → R)
    (init : CSt D P R) (h0 : CInit parse init) :
    ∀ s, CReach parse eval init s →
      (∀ k v, s.cache.get k = some v → parse k = some v) ∧
      (∀ t r, (s.call t).pc = .done r →
        r = alone parse eval (init.call t).doc (init.call t).key) := by
  intro s r
  have h := cinv_reach h0 r
  refine ⟨h.graph, fun t res hd => ?_⟩
  rw [← (h.same t).1, ← (h.same t).2]
  exact h.done t res hd

/-- A call that starts while `mut` is free and is not interrupted returns what it returns alone, whatever state the
    other calls are in and whatever they left in the cache. -/
theorem uninterrupted_is_alone {s : CSt D P R} {t : Nat}
    (hgr : ParseGraph parse s.cache) (hf : s.mutHolder = none) (hs : (s.call t).pc = .start) :
    ∃ r, ((crun parse eval s [t, t, t, t, t, t]).call t).pc = .done r ∧
      r = alone parse eval (s.call t).doc (s.call t).key := by
  unfold alone
  -- the three paths of `ExecReader`, each run to its end; splitting first keeps the states small
  cases hg : s.cache.get (s.call t).key with
  | none =>
    cases hp : parse (s.call t).key with
    | none => simp only [crun, cstep, hs, hf, upd_same, hg, hp]; exact ⟨_, rfl, rfl⟩
    | some p => simp only [crun, cstep, hs, hf, upd_same, hg, hp, get_put_same]; exact ⟨_, rfl, rfl⟩
  | some v => simp only [crun, cstep, hs, hf, upd_same, hg, hgr _ _ hg]; exact ⟨_, rfl, rfl⟩

/-- The single-call run (the meaning of "run alone"): starting from any legal cache, the
    schedule `t, t, t, …` drives call `t` to `done (alone …)`. -/
theorem alone_is_sequential (parse : String → Option P) (eval : P → D → R)
    (init : CSt D P R) (h0 : CInit parse init) (t : Nat) :
    ∃ r, ((crun parse eval init [t, t, t, t, t, t]).call t).pc = .done r ∧
      r = alone parse eval (init.call t).doc (init.call t).key :=
  uninterrupted_is_alone h0.graph h0.free (h0.fresh t)

/-- The `ExecReader` protocol cannot deadlock: in every reachable state some call can step unless
    all have returned. -/
theorem execReader_no_deadlock (parse : String → Option P) (eval : P → D → R)
    (init : CSt D P R) (h0 : CInit parse init) :
    ∀ s, CReach parse eval init s →
      (∀ t, ∃ r, (s.call t).pc = .done r) ∨ ∃ t s', cstep parse eval s t = some s' := by
  intro s r
  have h := cinv_reach h0 r
  by_cases hall : ∀ t, ∃ r, (s.call t).pc = .done r
  · exact .inl hall
  · obtain ⟨t, ht⟩ := Classical.not_forall.1 hall
    refine .inr ?_
    -- the call inside the critical section can step; if there is none, any call that has not returned can
    cases hm : s.mutHolder with
    | some u =>
      have hi := (h.inside u).2 hm
      exact ⟨u, cstep_enabled (fun e => (e ▸ hi : Inside .start).elim) (h.hit u)
        fun r e => (e ▸ hi : Inside (.done r)).elim⟩
    | none => exact ⟨t, cstep_enabled (fun _ => hm) (h.hit t) fun r e => ht ⟨r, e⟩⟩

end Cache

/-! ### The hand-written reference paths of `Model/Conc`, and non-vacuity -/

/-- The reference paths of the repaired `ExecReader`; the extracted ones: `Obligations.C13.execReader_well_locked`. -/
theorem execReader_fixed_well_locked : WLpaths execReaderGuard execReaderFixedPaths = true := by
  decide +kernel

/-- Pinned tree (D31): the `read cache` after the unlock fails the obligation. -/
theorem execReader_pinned_not_well_locked :
    WLpaths execReaderGuard execReaderPinnedPaths = false := by decide +kernel

example : WL execReaderGuard [.lock "mut", .read "cache", .unlock "mut", .read "cache"] = false := by
  decide +kernel
example : WL execReaderGuard [.lock "mut", .read "cache", .read "cache", .unlock "mut"] = true := by
  decide +kernel
-- re-acquiring a held mutex, unlocking a free one, returning with the mutex held: all rejected
example : WL execReaderGuard [.lock "mut", .lock "mut", .unlock "mut"] = false := by decide +kernel
example : WL execReaderGuard [.unlock "mut"] = false := by decide +kernel
example : WL execReaderGuard [.lock "mut", .read "cache"] = false := by decide +kernel

/-- Reference paths with one critical section; the extracted ones have up to two:
    `Obligations.C13.parallel_join_well_locked`. -/
theorem parallelJoin_workers_well_locked :
    WLpaths parallelJoinGuard parallelJoinWorkerPaths = true := by decide +kernel

-- the same worker without the mutex around the append is rejected
example : WL parallelJoinGuard [.read "slice", .write "slice"] = false := by decide +kernel

/-- Two goroutines running the pinned miss path and the pinned hit path. -/
def pinnedPair : Nat → List Instr
  | 0 => [.lock "mut", .read "cache", .write "cache", .unlock "mut", .read "cache"]
  | 1 => [.lock "mut", .read "cache", .unlock "mut", .read "cache"]
  | _ => []

/-- The model is not vacuous: the pinned program *does* reach a race (thread 1 finishes its
    critical section and is about to read `cache` unlocked while thread 0 is about to write). -/
theorem pinned_races : Race execReaderGuard (run (start pinnedPair) [1, 1, 1, 0, 0]) := by
  refine ⟨0, 1, "cache", true, false, by decide, by decide, ⟨[.unlock "mut", .read "cache"], ?_⟩,
    ⟨[], ?_⟩, Or.inl rfl⟩ <;> decide

/-- Three goroutines running the three repaired paths; the hypotheses of the theorems hold. -/
def fixedTriple : Nat → List Instr
  | 0 => [.lock "mut", .read "cache", .read "cache", .unlock "mut"]
  | 1 => [.lock "mut", .read "cache", .write "cache", .read "cache", .unlock "mut"]
  | 2 => [.lock "mut", .read "cache", .unlock "mut"]
  | _ => []

theorem fixedTriple_wl : ∀ t, WL execReaderGuard (fixedTriple t) = true := fun
  | 0 => List.all_eq_true.1 execReader_fixed_well_locked _ (.head _)
  | 1 => List.all_eq_true.1 execReader_fixed_well_locked _ (.tail _ (.head _))
  | 2 => List.all_eq_true.1 execReader_fixed_well_locked _ (.tail _ (.tail _ (.head _)))
  | _ + 3 => rfl

theorem fixedTriple_single : ∀ t, SingleLock "mut" (fixedTriple t) := fun
  | 0 | 1 | 2 => by simp [SingleLock, fixedTriple]
  | _ + 3 => nofun

example : ∀ sched, ¬ Race execReaderGuard (run (start fixedTriple) sched) :=
  well_locked_race_free_run execReaderGuard fixedTriple fixedTriple_wl

example : ∀ s, Reach (start fixedTriple) s → Finished s ∨ ∃ t s', step s t = some s' :=
  no_deadlock_single_lock execReaderGuard "mut" fixedTriple fixedTriple_wl fixedTriple_single

-- a blocked `lock` really is disabled in the model (thread 1 after thread 0 took the mutex)
example : (step (run (start fixedTriple) [0]) 1).isSome = false := by decide +kernel
example : (step (run (start fixedTriple) [0]) 0).isSome = true := by decide +kernel

/-- Concrete cache instance: selectors are parsed to their length, evaluation adds the document. -/
def demoInit : CSt Nat Nat Nat where
  mutHolder := none
  cache := []
  call := fun t => ⟨10 * t, if t % 2 = 0 then "a.b" else "c", .start⟩

def demoParse (k : String) : Option Nat := if k = "c" then none else some k.length

example : CInit demoParse demoInit := ⟨nofun, rfl, fun _ => rfl⟩

-- an interleaving of calls 0, 1, 2: each returns what it returns alone
def demoSched : List Nat := [0, 0, 0, 0, 0, 2, 1, 2, 1, 2, 1, 2, 1, 0, 2, 2, 1, 1, 1]
example :
    (((crun demoParse (· + ·) demoInit demoSched).call 0).pc,
     ((crun demoParse (· + ·) demoInit demoSched).call 1).pc,
     ((crun demoParse (· + ·) demoInit demoSched).call 2).pc) =
      (.done (some 3), .done none, .done (some 23)) := by decide +kernel

end Genql.C13

/-
  Property C03 — GROUP BY partitions the rows; aggregates cover exactly their group; WHERE honoured.

  `scanG` is the linear scan of `ExecGroupBy` (`groupLoop`) with key extraction / key comparison that
  do not fail; `groupsSpec` is the textbook grouping: the distinct keys in order of first appearance,
  each with the rows carrying that key, in source order.
-/
import Genql.Properties.C06
import Genql.Properties.C01
import Genql.Model.Eval
import Genql.Lawful
import Genql.Proofs.Builtins
import Genql.Proofs.Exec
namespace Genql.C03
open Genql Genql.C06
variable {α κ : Type}

def addG (same : κ → κ → Bool) (k : κ) (x : α) : List (κ × List α) → List (κ × List α)
  | [] => [(k, [x])]
  | (k', xs) :: gs => if same k' k then (k', xs ++ [x]) :: gs else (k', xs) :: addG same k x gs

def scanG (same : κ → κ → Bool) (key : α → κ) : List α → List (κ × List α) → List (κ × List α)
  | [], acc => acc
  | x :: xs, acc => scanG same key xs (addG same (key x) x acc)

theorem addG_keys {P : κ → Prop} (same : κ → κ → Bool) {k : κ} (x : α) {gs : List (κ × List α)}
    (hk : P k) (hgs : ∀ g ∈ gs, P g.1) : ∀ g ∈ addG same k x gs, P g.1 := by
  induction gs with
  | nil => exact List.forall_mem_singleton.mpr hk
  | cons g gs ih =>
    obtain ⟨hg, hgs⟩ := List.forall_mem_cons.mp hgs
    rw [addG]
    split
    · exact List.forall_mem_cons.mpr ⟨hg, hgs⟩
    · exact List.forall_mem_cons.mpr ⟨hg, ih hgs⟩

/-- one step of `groupLoop` is `addG` when the comparison succeeds on the keys at hand: `P` holds of the keys that
    occur (Go's `==` answers on scalar keys only) -/
theorem addToGroup_pure_on {P : κ → Prop} (same : κ → κ → Bool) (eq : κ → κ → R Bool)
    (heq : ∀ a b, P a → P b → eq a b = .ok (same a b)) (k : κ) (x : α) (hk : P k) (gs : List (κ × List α))
    (hgs : ∀ g ∈ gs, P g.1) : addToGroup eq k x gs = .ok (addG same k x gs) := by
  induction gs with
  | nil => rfl
  | cons g gs ih =>
    obtain ⟨k', xs⟩ := g
    obtain ⟨hk', hgs⟩ := List.forall_mem_cons.mp hgs
    rw [addToGroup, heq k' k hk' hk, C19.ok_bind, addG]
    cases same k' k
    · rw [ih hgs]; rfl
    · rfl

theorem groupLoop_pure_on {P : κ → Prop} (same : κ → κ → Bool) (key : α → κ) (keyOf : α → R κ) (eq : κ → κ → R Bool)
    (heq : ∀ a b, P a → P b → eq a b = .ok (same a b)) (xs : List α) (acc : List (κ × List α))
    (hk : ∀ x ∈ xs, keyOf x = .ok (key x) ∧ P (key x)) (hacc : ∀ g ∈ acc, P g.1) :
    groupLoop keyOf eq xs acc = .ok (scanG same key xs acc) := by
  induction xs generalizing acc with
  | nil => rfl
  | cons x xs ih =>
    obtain ⟨⟨hx, hp⟩, hk⟩ := List.forall_mem_cons.mp hk
    rw [groupLoop, hx, C19.ok_bind, addToGroup_pure_on same eq heq _ x hp acc hacc, C19.ok_bind, scanG]
    exact ih _ hk (addG_keys same x hp hacc)

theorem groupLoop_pure (same : κ → κ → Bool) (key : α → κ) (keyOf : α → R κ) (eq : κ → κ → R Bool)
    (hk : ∀ x, keyOf x = .ok (key x)) (heq : ∀ a b, eq a b = .ok (same a b)) :
    ∀ (xs : List α) (acc : List (κ × List α)), groupLoop keyOf eq xs acc = .ok (scanG same key xs acc) :=
  fun xs acc => groupLoop_pure_on (P := fun _ => True) same key keyOf eq (fun a b _ _ => heq a b) xs acc
    (fun x _ => ⟨hk x, trivial⟩) (fun _ _ => trivial)

def groupsSpec (same : κ → κ → Bool) (key : α → κ) (xs : List α) : List (κ × List α) :=
  (specDedup same (xs.map key)).map (fun k => (k, xs.filter (fun x => same k (key x))))

theorem scanG_append (same : κ → κ → Bool) (key : α → κ) (xs ys : List α) (acc : List (κ × List α)) :
    scanG same key (xs ++ ys) acc = scanG same key ys (scanG same key xs acc) := by
  induction xs generalizing acc with
  | nil => rfl
  | cons x xs ih => exact ih _

/-- one step of the scan on a key-indexed list with pairwise different keys: the row joins the group whose
    key matches (at most one does), or opens a new group at the end -/
theorem addG_map (same : κ → κ → Bool) (h : Equiv same) (k : κ) (x : α) (f : κ → List α) :
    ∀ (ks : List κ), ks.Pairwise (fun a b => same a b = false) →
      addG same k x (ks.map (fun k' => (k', f k'))) =
        ks.map (fun k' => (k', if same k' k then f k' ++ [x] else f k')) ++
          if ks.any (fun a => same a k) then [] else [(k, [x])] := by
  intro ks
  induction ks with
  | nil => intro _; rfl
  | cons k0 ks ih =>
    intro hp
    obtain ⟨hk0, hp⟩ := List.pairwise_cons.mp hp
    rw [List.map_cons, addG, List.map_cons, List.any_cons]
    cases h0 : same k0 k with
    | false => rw [ih hp]; rfl
    | true =>
      -- the keys after `k0` differ from `k0`, hence from `k`
      have hks : ∀ k' ∈ ks, same k' k = false := fun k' hk' => by
        rw [h.symm, ← h.congr_left h0, hk0 k' hk']
      have hmap : ks.map (fun k' => (k', if same k' k then f k' ++ [x] else f k')) = ks.map (fun k' => (k', f k')) :=
        List.map_congr_left fun k' hk' => by rw [hks k' hk']; rfl
      rw [hmap]
      exact (List.append_nil _).symm

theorem addG_groupsSpec (same : κ → κ → Bool) (h : Equiv same) (key : α → κ) (p : List α) (x : α) :
    addG same (key x) x (groupsSpec same key p) = groupsSpec same key (p ++ [x]) := by
  rw [groupsSpec, addG_map same h _ _ _ _ (specDedup_nodup same _), any_specDedup same h, groupsSpec,
    List.map_append, specDedup_append, List.map_append]
  congr 1
  · refine List.map_congr_left fun k' _ => ?_
    rw [List.filter_append]
    cases hk : same k' (key x) <;> simp [hk]
  · show _ = (List.filter _ [key x]).map _
    rw [List.filter_cons]
    cases hany : (p.map key).any (fun a => same a (key x)) with
    | true => rfl
    | false =>
      have : p.filter (fun y => same (key x) (key y)) = [] :=
        List.filter_eq_nil_iff.mpr fun y hy => by
          rw [h.symm]; simpa using List.any_eq_false.mp hany (key y) (List.mem_map_of_mem hy)
      show [(key x, [x])] = [(key x, _)]
      rw [List.filter_append, this, List.filter_cons, h.refl]
      rfl

theorem scanG_groupsSpec (same : κ → κ → Bool) (h : Equiv same) (key : α → κ) (xs p : List α) :
    scanG same key xs (groupsSpec same key p) = groupsSpec same key (p ++ xs) := by
  induction xs generalizing p with
  | nil => rw [List.append_nil]; rfl
  | cons x xs ih => rw [scanG, addG_groupsSpec same h, ih, List.append_assoc]; rfl

/-- **GROUP BY = textbook grouping**: groups in order of first appearance of their key, each with
    exactly the rows carrying that key, in source order. -/
theorem groups_eq_spec (same : κ → κ → Bool) (h : Equiv same) (key : α → κ) (xs : List α) :
    scanG same key xs [] = groupsSpec same key xs :=
  scanG_groupsSpec same h key xs []

theorem groups_first_appearance (same : κ → κ → Bool) (key : α → κ) (xs : List α) :
    (groupsSpec same key xs).map (·.1) = specDedup same (xs.map key) := by
  simp [groupsSpec, List.map_map, Function.comp_def]

theorem groups_nodup_keys (same : κ → κ → Bool) (key : α → κ) (xs : List α) :
    ((groupsSpec same key xs).map (·.1)).Pairwise (fun a b => same a b = false) := by
  rw [groups_first_appearance]; exact specDedup_nodup same _

theorem mem_group_iff (same : κ → κ → Bool) (key : α → κ) (xs : List α) (k : κ) (ms : List α)
    (hg : (k, ms) ∈ groupsSpec same key xs) (x : α) : x ∈ ms ↔ x ∈ xs ∧ same k (key x) = true := by
  simp only [groupsSpec, List.mem_map, Prod.mk.injEq] at hg
  obtain ⟨k', _, rfl, rfl⟩ := hg
  simp [List.mem_filter]

theorem same_group_iff (same : κ → κ → Bool) (h : Equiv same) (key : α → κ) (xs : List α) (x y : α)
    (hx : x ∈ xs) (hy : y ∈ xs) :
    (∃ g ∈ groupsSpec same key xs, x ∈ g.2 ∧ y ∈ g.2) ↔ same (key x) (key y) = true := by
  constructor
  · rintro ⟨⟨k, ms⟩, hg, hxm, hym⟩
    have h1 := ((mem_group_iff same key xs k ms hg x).mp hxm).2
    have h2 := ((mem_group_iff same key xs k ms hg y).mp hym).2
    exact h.trans _ k _ (by rw [h.symm]; exact h1) h2
  · intro hxy
    obtain ⟨k, hk, hkx⟩ := specDedup_covers same h (xs.map key) (key x) (List.mem_map.mpr ⟨x, hx, rfl⟩)
    refine ⟨(k, xs.filter (fun z => same k (key z))), ?_, ?_, ?_⟩
    · simp only [groupsSpec, List.mem_map]; exact ⟨k, hk, rfl⟩
    · simp [List.mem_filter, hx, hkx]
    · simp [List.mem_filter, hy, h.trans k (key x) (key y) hkx hxy]

theorem addG_members_perm (same : κ → κ → Bool) (k : κ) (x : α) (gs : List (κ × List α)) :
    ((addG same k x gs).flatMap (·.2)).Perm (gs.flatMap (·.2) ++ [x]) := by
  induction gs with
  | nil => exact List.Perm.refl _
  | cons g gs ih =>
    rw [addG]
    split
    · rw [List.flatMap_cons, List.flatMap_cons, List.append_assoc, List.append_assoc]
      exact List.Perm.append_left _ List.perm_append_comm
    · rw [List.flatMap_cons, List.flatMap_cons, List.append_assoc]
      exact List.Perm.append_left _ ih

theorem scanG_members_perm (same : κ → κ → Bool) (key : α → κ) (xs : List α) (acc : List (κ × List α)) :
    ((scanG same key xs acc).flatMap (·.2)).Perm (acc.flatMap (·.2) ++ xs) := by
  induction xs generalizing acc with
  | nil => rw [List.append_nil]; exact List.Perm.refl _
  | cons x xs ih =>
    refine (ih _).trans ?_
    rw [← List.singleton_append (l := xs), ← List.append_assoc]
    exact List.Perm.append_right _ (addG_members_perm same (key x) x acc)

/-- **partition**: every row that passed WHERE lands in exactly one group — the members of all
    groups together are a permutation of the rows -/
theorem groups_partition (same : κ → κ → Bool) (h : Equiv same) (key : α → κ) (xs : List α) :
    ((groupsSpec same key xs).flatMap (·.2)).Perm xs := by
  rw [← groups_eq_spec same h]
  exact scanG_members_perm same key xs []

/-- **conservation**: the group sizes (the COUNT(*) of each group) add up to the number of rows -/
theorem count_conservation (same : κ → κ → Bool) (h : Equiv same) (key : α → κ) (xs : List α) :
    ((groupsSpec same key xs).map (·.2.length)).sum = xs.length := by
  have := (groups_partition same h key xs).length_eq
  rw [← this, List.length_flatMap]

section aggr
variable {N : Type}

/-- the numbers of a column, NULL members dropped (`none` if something is not a number) -/
def numsOf : List (Val N) → Option (List N)
  | [] => some []
  | .null :: xs => numsOf xs
  | .num n :: xs => (numsOf xs).map (n :: ·)
  | _ => none

theorem numsOf_map_num (l : List N) : numsOf (l.map Val.num) = some l := by
  induction l with
  | nil => rfl
  | cons a l ih => rw [List.map_cons, numsOf, ih]; rfl

/-- a loop that skips NULL members and folds the numbers computes the fold over `numsOf` (the shape of
    `sumLoop` and `minLoop`) -/
theorem numLoop_spec (loop : List (Val N) → Option N → R (Option N)) {g : Option N → N → N}
    (h0 : ∀ acc, loop [] acc = .ok acc) (h1 : ∀ xs acc, loop (.null :: xs) acc = loop xs acc)
    (h2 : ∀ n xs acc, loop (.num n :: xs) acc = loop xs (some (g acc n)))
    (xs : List (Val N)) (ns : List N) (h : numsOf xs = some ns) (acc : Option N) :
    loop xs acc = .ok (ns.foldl (fun a n => some (g a n)) acc) := by
  induction xs generalizing ns acc with
  | nil => cases h; exact h0 acc
  | cons x xs ih =>
    cases x with
    | null => rw [h1]; exact ih ns h acc
    | num n =>
      obtain ⟨ms, hms, rfl⟩ := Option.map_eq_some_iff.mp h
      rw [h2]; exact ih ms hms _
    | _ => cases h

variable [Num N]

theorem sumLoop_spec (xs : List (Val N)) (ns : List N) (h : numsOf xs = some ns) (acc : Option N) :
    sumLoop xs acc = .ok (ns.foldl (fun (a : Option N) n => some (match a with
      | some s => Num.add s n | none => Num.add (Num.ofInt 0) n)) acc) :=
  numLoop_spec sumLoop (fun _ => rfl) (fun _ _ => rfl) (fun _ _ _ => rfl) xs ns h acc

omit [Num N] in
theorem minLoop_spec (better : N → N → Bool) (xs : List (Val N)) (ns : List N) (h : numsOf xs = some ns)
    (acc : Option N) :
    minLoop better xs acc = .ok (ns.foldl (fun (a : Option N) n => some (match a with
      | some m => if better n m then n else m | none => n)) acc) :=
  numLoop_spec (minLoop better) (fun _ => rfl) (fun _ _ => rfl) (fun _ _ _ => rfl) xs ns h acc

theorem foldl_sum_some (l : List N) (a : N) :
    l.foldl (fun (a : Option N) n => some (match a with
      | some s => Num.add s n | none => Num.add (Num.ofInt 0) n)) (some a) = some (l.foldl Num.add a) := by
  induction l generalizing a with
  | nil => rfl
  | cons m l ih => exact ih _

/-- **SUM ignores NULL members, and is NULL when there is no non-NULL member** -/
theorem sum_ignores_null (xs : List (Val N)) (ns : List N) (h : numsOf xs = some ns) :
    callBuiltin false "sum" none 0 [.arr xs] = .ok (.v (match ns with
      | [] => .null
      | n :: rest => .num (rest.foldl Num.add (Num.add (Num.ofInt 0) n)))) := by
  rw [callBuiltin_guarded rfl, callBody_sum, asSlice, C19.ok_bind, sumLoop_spec xs ns h]
  cases ns with
  | nil => rfl
  | cons n rest => rw [List.foldl_cons, foldl_sum_some]; rfl

/-- **MIN / MAX ignore NULL members** (the running best over the non-NULL members, NULL if none) -/
theorem minmax_spec (xs : List (Val N)) (ns : List N) (h : numsOf xs = some ns) :
    callBuiltin false "min" none 0 [.arr xs] = .ok (.v (optNum (ns.foldl (fun (a : Option N) n => some (match a with
      | some m => if Num.lt n m then n else m | none => n)) none))) ∧
    callBuiltin false "max" none 0 [.arr xs] = .ok (.v (optNum (ns.foldl (fun (a : Option N) n => some (match a with
      | some m => if Num.lt m n then n else m | none => n)) none))) := by
  rw [callBuiltin_guarded rfl, callBuiltin_guarded rfl, callBody_min, callBody_max, asSlice, C19.ok_bind,
    C19.ok_bind, minLoop_spec _ xs ns h, minLoop_spec _ xs ns h]
  exact ⟨rfl, rfl⟩

/-- **AVG = SUM / COUNT on a column without NULLs** -/
theorem avg_is_sum_div_count (ns : List N) (n : N) :
    callBuiltin false "avg" none 0 [.arr ((n :: ns).map Val.num)] =
      .ok (.v (.num (Num.div (ns.foldl Num.add (Num.add (Num.ofInt 0) n)) (Num.ofInt ((n :: ns).length))))) := by
  rw [callBuiltin_guarded rfl, callBody_avg, asSlice, C19.ok_bind,
    sumLoop_spec _ _ (numsOf_map_num (n :: ns)), List.foldl_cons, foldl_sum_some, List.length_map]
  rfl

/-- COUNT(*) is the number of members of the group (`current["*"]`), COUNT(col) the length of the column -/
theorem count_spec (ms : List (Val N)) (col : List (Val N)) :
    callBuiltin false "count" (some ms) 0 [] = .ok (.v (.num (Num.ofInt ms.length))) ∧
    callBuiltin false "count" (some ms) 0 [.arr col] = .ok (.v (.num (Num.ofInt col.length))) :=
  ⟨(callBuiltin_unguarded arityOf_count).trans callBody_count_star,
   (callBuiltin_unguarded arityOf_count).trans (callBody_count_col ..)⟩
end aggr

section whole
variable {N : Type} [Num N] [LawfulNum N]
open Genql.C01

/-- **Without GROUP BY an all-aggregate select list yields exactly one row, computed over the rows
    that passed WHERE** — here for `SELECT COUNT(*) AS n FROM t WHERE p`: the single row holds the
    number of satisfying rows (0 when none did). -/
theorem whole_table_one_row (env : Env N) (data : Row N) (t : String) (rows : List (Row N)) (p : Expr N)
    (ht : Val.get data t = .arr (rows.map Val.obj)) (hwt : ∀ r ∈ rows, WT r p) :
    execQuery env data {} (.select [] false [.item (.aggr "count" []) "n" "n"] (.table [t] "" t) p []
        (.bool true) [] none none)
      = .ok (.arr [.obj [("n", .num (Num.ofInt (rows.filter (sem · p)).length))]]) := by
  rw [execQuery_flat ht (sem · p) (fun r hr => whereStage_sem (hwt r hr)),
    -- the one row: `COUNT(*)` without GROUP BY is the number of rows that passed (`matched`)
    postStage_ungrouped (selStage_whole (row := [("n", .num (Num.ofInt (rows.filter (sem · p)).length))]) rfl rfl (by
      rw [evalSel_item, evalExpr_count_star, C19.ok_bind, postCtx, if_neg Bool.false_ne_true, starOf, lookup?, if_pos rfl]
      dsimp only
      rw [List.length_map]
      rfl)),
    tailStage_plain]
  rfl

end whole

end Genql.C03

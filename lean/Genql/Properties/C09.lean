/-
  Property C09 — "Evaluating a path selector against a JSON-like document returns what the
  documented meaning prescribes: `a.b` descends objects and maps over arrays, `[i]` and `[i:j]`
  index successive dimensions, `each` iterates a dimension and flattens, `keep=>` preserves the
  nesting, `(m:n)` with `begin`/`end` slices, `{k|type,...}` reshapes and converts, quoted keys are
  literal, `::` continues from the previous result, and `fn=>` applies a registered top-level
  function; a missing key yields NULL.  Applying a step to a value of the wrong shape, or an index
  or slice bound outside the array, yields an error - never a panic - and evaluation never
  modifies the document."

  The model (`Genql.Model.Selector`) mirrors `selector.go` function by function, with the indexing and slicing
  operations that can panic in Go as explicit `.error .panic` outcomes behind the guard the Go code has.  Each law
  is stated for all documents and all continuations of the path.

  "never modifies the document" holds by construction of the model (values are immutable); that
  the Go code performs no write through `data` is a syntactic fact checked on the Go side.
-/
import Genql.Proofs.SelectorRoundTrip
import Genql.Proofs.ValEq
import Genql.Inst.IntNum
set_option linter.unusedSectionVars false
namespace Genql.C09
open Genql Genql.Sel
variable {N : Type} [Num N]

/-! ## Totality: an error, never a panic -/

/-- `ExecReader` never panics: all documents, ARBITRARY strings as selectors. -/
theorem sel_total_no_panic (doc : Val N) (s : String) : execReader doc s ≠ .error .panic :=
  execReaderWith_noPanic builtins_safe doc s

/-- the same with any registry of top level functions that do not panic themselves -/
theorem sel_total_no_panic_registry (reg : Registry N) (hreg : SafeRegistry reg) (doc : Val N) (s : String) :
    execReaderWith reg doc s ≠ .error .panic :=
  execReaderWith_noPanic hreg doc s

/-- parsing alone never panics either (`match[0]`, `split[0]` are always in range) -/
theorem parse_no_panic (s : String) : parseSelector s ≠ .error .panic :=
  parseSelectorL_noPanic s.toList

/-! ## Key steps: `a.b` descends objects, maps over arrays; a missing key is NULL -/

/-- the evaluator agrees with `readPath` (the key-only fragment used for column paths) -/
theorem evalSteps_keys (keys : List String) (d : Val N) :
    execSteps (keys.map .key) d = readPath keys d := by
  induction keys generalizing d with
  | nil => rfl
  | cons k ks ih => exact congrFun (congrArg (keyStep k) (funext ih)) d

/-- a key step on an object continues with the value stored under the key -/
theorem key_on_object (k : String) (rest : List Step) (fs : Row N) :
    evalSteps (.key k :: rest) (.obj fs) = evalSteps rest (Val.get fs k) :=
  keyStep_obj k (evalSteps rest) fs

/-- a key step on an array is applied (with the whole rest of the path) to every element -/
theorem key_maps_arrays (k : String) (rest : List Step) (xs : List (Val N)) :
    evalSteps (.key k :: rest) (.arr xs) = .arr <$> mapE (evalSteps (.key k :: rest)) xs :=
  keyStep_arr k (evalSteps rest) xs

/-- a missing key yields NULL, whatever follows it in the path -/
theorem missing_key_null (k : String) (rest : List Step) (fs : Row N) (h : lookup? k fs = none) :
    evalSteps (.key k :: rest) (.obj fs) = .ok .null := by
  rw [key_on_object, Val.get, h]
  exact evalSteps_null rest

example : evalSteps [.key "zip", .key "code"] (.obj [("name", .str "ann")] : Val Int) = .ok .null :=
  missing_key_null "zip" [.key "code"] _ (by decide)

/-! ## Index and slice steps -/

theorem index_in_range (i : Nat) (rest : List Step) (xs : List (Val N)) (h : i < xs.length) :
    evalSteps (.dims [.idx i] :: rest) (.arr xs) = evalSteps rest xs[i] := by
  rw [dims_one, selDim_index_in_range i [] xs h]; rfl

example : evalSteps [.dims [.idx 1], .key "name"]
    (.arr [.obj [("name", .str "ann")], .obj [("name", .str "bob")]] : Val Int) = .ok (.str "bob") := by
  rw [index_in_range 1 _ _ (by decide)]; decide

/-- an index outside the array is an error (in `[…]` and in `[keep=>…]`, whatever dimensions follow) -/
theorem index_out_of_range_error (i : Nat) (ds : List Dim) (rest : List Step) (xs : List (Val N))
    (h : xs.length ≤ i) :
    evalSteps (.dims (.idx i :: ds) :: rest) (.arr xs) = .error .error ∧
    evalSteps (.keep (.idx i :: ds) :: rest) (.arr xs) = .error .error :=
  selDim_error_steps (selDim_index_out_of_range i ds xs h) rest

example : evalSteps [.dims [.each, .idx 2]] (.arr [.arr [.num 1, .num 2, .num 3], .arr [.num 4]] : Val Int)
    = .error .error := by decide

/-- `(m:n)`: with `begin = 0` and `end = len` for the omitted bounds, a range within the array is
    the slice `xs[m:n]`; anything else is an error -/
theorem range_is_slice (b e : Option Nat) (rest : List Step) (xs : List (Val N))
    (h : b.getD 0 ≤ e.getD xs.length ∧ e.getD xs.length ≤ xs.length) :
    evalSteps (.dims [.range b e] :: rest) (.arr xs) =
      evalSteps rest (.arr ((xs.drop (b.getD 0)).take (e.getD xs.length - b.getD 0))) := by
  rw [dims_one, selDim_range, if_pos h]; rfl

theorem range_out_of_bounds_error (b e : Option Nat) (ds : List Dim) (rest : List Step) (xs : List (Val N))
    (h : ¬ (b.getD 0 ≤ e.getD xs.length ∧ e.getD xs.length ≤ xs.length)) :
    evalSteps (.dims (.range b e :: ds) :: rest) (.arr xs) = .error .error ∧
    evalSteps (.keep (.range b e :: ds) :: rest) (.arr xs) = .error .error :=
  selDim_error_steps (by rw [selDim_range, if_neg h]) rest

/-- `(begin:end)` is the whole array, `(begin:n)` a prefix, `(m:end)` a suffix -/
theorem range_begin_end (rest : List Step) (xs : List (Val N)) :
    evalSteps (.dims [.range none none] :: rest) (.arr xs) = evalSteps rest (.arr xs) := by
  rw [range_is_slice none none rest xs (by simp)]; simp

theorem range_prefix (n : Nat) (rest : List Step) (xs : List (Val N)) (h : n ≤ xs.length) :
    evalSteps (.dims [.range none (some n)] :: rest) (.arr xs) = evalSteps rest (.arr (xs.take n)) := by
  rw [range_is_slice none (some n) rest xs (by simpa using h)]; simp

theorem range_suffix (m : Nat) (rest : List Step) (xs : List (Val N)) (h : m ≤ xs.length) :
    evalSteps (.dims [.range (some m) none] :: rest) (.arr xs) = evalSteps rest (.arr (xs.drop m)) := by
  rw [range_is_slice (some m) none rest xs (by simpa using h)]
  simp [List.take_of_length_le]

example : evalSteps [.dims [.range (some 1) none]] (.arr [.num 1, .num 2, .num 3] : Val Int)
    = .ok (.arr [.num 2, .num 3]) := range_suffix 1 [] _ (by decide)

/-! ## `each` iterates and flattens, `keep=>` preserves the nesting -/

/-- textbook flattening: remove `n` levels of array nesting (non-array elements are kept) -/
def flattenN : Nat → List (Val N) → List (Val N)
  | 0, xs => xs
  | n + 1, xs => xs.flatMap fun x => match x with
      | .arr ys => flattenN n ys
      | v => [v]

/-- `Unwind` with a non-negative depth is textbook flattening -/
theorem unwind_eq_flattenN : ∀ (n : Nat) (xs : List (Val N)), unwind (n : Int) xs = flattenN n xs
  | 0, xs => rfl
  | n + 1, xs => by
    have h0 : ¬ (((n + 1 : Nat) : Int) = 0) := by omega
    have h1 : ((n + 1 : Nat) : Int) - 1 = (n : Int) := by omega
    simp only [unwind, beq_iff_eq, h0, if_false, h1, unwindItems_eq_flatMap, flattenN]
    congr 1
    funext x
    cases x with
    | arr ys => rw [unwindItem_arr, unwind_eq_flattenN n]
    | _ => rfl

theorem flattenKept_eq_flattenN (n : Nat) (v : Val N) :
    flattenKept (n : Int) v = match v with
      | .arr ys => .arr (flattenN n ys)
      | v => v := by
  cases v with
  | arr ys => exact congrArg Val.arr (unwind_eq_flattenN n ys)
  | _ => rfl

/-- `each` applies the remaining dimensions to every element of the current dimension -/
theorem each_iterates (ds : List Dim) (xs : List (Val N)) :
    selDim (.each :: ds) (.arr xs) = .arr <$> mapE (selDim ds) xs :=
  selDim_each ds xs

/-- `keep=>` hands the selected structure on as it is -/
theorem keep_preserves_nesting (ds : List Dim) (rest : List Step) (xs : List (Val N)) :
    evalSteps (.keep ds :: rest) (.arr xs) = selDim ds (.arr xs) >>= evalSteps rest :=
  keepStep_arr ds (evalSteps rest) xs

/-- … in particular an `each` dimension keeps one entry per element -/
theorem keep_each_length (ds : List Dim) (xs ys : List (Val N))
    (h : evalSteps [.keep (.each :: ds)] (.arr xs) = .ok (.arr ys)) : ys.length = xs.length := by
  rw [keep_preserves_nesting, each_iterates] at h
  cases hm : mapE (selDim ds) xs with
  | error e => rw [hm] at h; cases h
  | ok zs => rw [hm] at h; cases h; exact mapE_ok_length hm

example : ∃ ys, evalSteps [.keep [.each, .idx 0]] (.arr [.arr [.num 1, .num 2], .arr [.num 3]] : Val Int)
    = .ok (.arr ys) ∧ ys.length = 2 := ⟨[.num 1, .num 3], by decide, rfl⟩

/-- without `keep=>`, the result of `n+1` dimensions is the kept structure with `n` levels of
    nesting removed -/
theorem each_flattens (d : Dim) (ds : List Dim) (rest : List Step) (xs : List (Val N)) :
    evalSteps (.dims (d :: ds) :: rest) (.arr xs) =
      selDim (d :: ds) (.arr xs) >>= fun kept =>
        evalSteps rest (match kept with
          | .arr ys => .arr (flattenN ds.length ys)
          | v => v) := by
  have h1 : (((d :: ds).length : Nat) : Int) - 1 = (ds.length : Int) := by simp
  simp only [dims_arr, h1, flattenKept_eq_flattenN]

/-- `[…]` is `[keep=>…]` followed by the flattening -/
theorem dims_eq_flattened_keep (d : Dim) (ds : List Dim) (xs : List (Val N)) :
    evalSteps [.dims (d :: ds)] (.arr xs) =
      (fun kept => match kept with
        | .arr ys => .arr (flattenN ds.length ys)
        | v => v) <$> evalSteps [.keep (d :: ds)] (.arr xs) := by
  rw [each_flattens, keep_preserves_nesting]
  cases selDim (d :: ds) (.arr xs) <;> rfl

/-- the README reading of `[each:each]`: a list of lists becomes their concatenation;
    with `keep=>` it stays as it is -/
theorem each_each_concat (xss : List (List (Val N))) :
    evalSteps [.dims [.each, .each]] (.arr (xss.map .arr)) = .ok (.arr xss.flatten) ∧
    evalSteps [.keep [.each, .each]] (.arr (xss.map .arr)) = .ok (.arr (xss.map .arr)) := by
  have hin : ∀ x ∈ xss.map Val.arr, selDim [Dim.each] x = .ok (id x) := by
    intro x hx
    obtain ⟨ys, _, rfl⟩ := List.mem_map.mp hx
    rw [each_iterates, mapE_eq_map_of_ok (g := id) fun y _ => selDim_nil y, List.map_id]
    rfl
  have hk : selDim [.each, .each] (.arr (xss.map .arr)) = .ok (.arr (xss.map .arr)) := by
    rw [each_iterates, mapE_eq_map_of_ok hin, List.map_id]; rfl
  refine ⟨?_, ?_⟩
  · rw [each_flattens, hk]
    exact congrArg (fun l => Except.ok (Val.arr l)) ((List.flatMap_map ..).trans List.flatMap_id')
  · rw [keep_preserves_nesting, hk]; rfl

example : evalSteps [.dims [.each, .each]] (.arr [.arr [.num 1, .num 2], .arr [.num 3]] : Val Int)
    = .ok (.arr [.num 1, .num 2, .num 3]) := (each_each_concat [[.num 1, .num 2], [.num 3]]).1

/-! ## `::` continues from the previous result -/

def docNestedC09 : Val Int := .obj [("data", .arr [
  .obj [("user", .arr [.str "a", .str "b"])], .obj [("user", .arr [.str "c"])]])]

/-- evaluating `a::b` is evaluating `a`, then `b` on the result (provided `b` parses: `ExecReader`
    parses the whole text before it runs anything, so a malformed `b` is reported even when `a`
    would fail first; for `ha` see `splitCC_append`) -/
theorem continue_is_composition (reg : Registry N) (d : Val N) (a b : String)
    (ha : a.toList.getLast? ≠ some ':') (hb : ∃ qs, parseAllL b.toList = .ok qs) :
    execReaderWith reg d (a ++ "::" ++ b) =
      execReaderWith reg d a >>= fun r => execReaderWith reg r b := by
  obtain ⟨qs, hq⟩ := hb
  rw [execReaderWith_cc reg d a b ha, hq, execReaderWith]
  simp only [execReaderWith_of_parse reg hq]
  cases parseAllL a.toList <;> rfl

/-- … and if `b` does not parse the whole selector is rejected -/
theorem continue_parse_error (reg : Registry N) (d : Val N) (a b : String)
    (ha : a.toList.getLast? ≠ some ':') (e : Err) (hb : parseAllL b.toList = .error e) :
    ∃ e', execReaderWith reg d (a ++ "::" ++ b) = .error e' := by
  rw [execReaderWith_cc reg d a b ha, hb]
  cases parseAllL a.toList with
  | error e' => exact ⟨e', rfl⟩
  | ok ps => exact ⟨e, rfl⟩

theorem continue_is_composition_builtin (d : Val N) (a b : String)
    (ha : a.toList.getLast? ≠ some ':') (hb : ∃ qs, parseAllL b.toList = .ok qs) :
    execReader d (a ++ "::" ++ b) = execReader d a >>= fun r => execReader r b :=
  continue_is_composition builtins d a b ha hb

example : execReader docNestedC09 "data[each].user::[0]"
    = execReader docNestedC09 "data[each].user" >>= fun r => execReader r "[0]" :=
  continue_is_composition_builtin _ "data[each].user" "[0]" (by decide +kernel)
    ⟨[⟨none, [.dims [.idx 0]]⟩], by decide +kernel⟩

/-! ## `{k|type, …}` reshapes and converts -/

/-- on an object the pipe step builds a new object and continues with it -/
theorem pipe_on_object (ps : List (String × String)) (rest : List Step) (fs : Row N) :
    evalSteps (.pipe ps :: rest) (.obj fs) = pipeObj fs ps [] >>= fun c => evalSteps rest (.obj c) :=
  pipeStep_obj ps (evalSteps rest) fs

/-- on an array it is applied (with the rest of the path) to every element -/
theorem pipe_maps_arrays (ps : List (String × String)) (rest : List Step) (xs : List (Val N)) :
    evalSteps (.pipe ps :: rest) (.arr xs) = .arr <$> mapE (evalSteps (.pipe ps :: rest)) xs :=
  pipeStep_arr ps (evalSteps rest) xs

/-- reshape: with distinct keys the new object has exactly the listed keys, in the listed order,
    each holding the converted value of that key in the source object (NULL if it was missing) -/
theorem pipe_reshape (ps : List (String × String)) (rest : List Step) (fs : Row N)
    (hnd : (ps.map (·.1)).Nodup) :
    evalSteps (.pipe ps :: rest) (.obj fs) =
      mapE (pipePair fs) ps >>= fun c => evalSteps rest (.obj c) := by
  rw [pipe_on_object, pipeObj_eq_mapE fs ps [] hnd fun _ _ => rfl]
  cases mapE (pipePair fs) ps <;> rfl

/-- no type: the value is copied -/
theorem pipe_conv_none (v : Val N) : pipeConv "" v = .ok v := by simp [pipeConv]

/-- `|string` of an integral number is its decimal text, of a string the string itself -/
theorem pipe_conv_string_int (n : N) (i : Int) (h : Num.toInt? n = some i) :
    pipeConv "string" (.num n) = .ok (.str (toString i)) := by
  rw [pipeConv, if_neg (by decide), if_pos rfl, pipeString, h]

theorem pipe_conv_string_str (s : String) : pipeConv "string" (.str s : Val N) = .ok (.str s) := by
  rw [pipeConv, if_neg (by decide), if_pos rfl]; rfl

/-- `|number` of anything but a string is an error; an unknown type name is an error -/
theorem pipe_conv_number_not_string (v : Val N) (h : ∀ s, v ≠ .str s) :
    pipeConv "number" v = .error .error := by
  rw [pipeConv, if_neg (by decide), if_neg (by decide), if_pos rfl]
  cases v with
  | str s => exact absurd rfl (h s)
  | _ => rfl

theorem pipe_conv_unknown (ty : String) (v : Val N) (h1 : ty ≠ "") (h2 : ty ≠ "string")
    (h3 : ty ≠ "number") : pipeConv ty v = .error .error := by
  rw [pipeConv, if_neg h1, if_neg h2, if_neg h3]

example : evalSteps [.pipe [("id", "string"), ("createdAt", "")]]
    (.obj [("name", .str "ann"), ("id", .num 7)] : Val Int)
    = .ok (.obj [("id", .str "7"), ("createdAt", .null)]) := by decide +kernel

/-! ## quoted keys are literal -/

theorem quoted_toList (k : String) : ("'" ++ k ++ "'").toList = '\'' :: (k.toList ++ ['\'']) := by
  have : "'".toList = ['\''] := by decide
  simp [String.toList_append, this]

/-- `'…'` is one key step holding exactly the quoted text: nothing inside it (dots, brackets,
    braces, arrows, blanks) is interpreted -/
theorem quoted_key_literal (k : String) (hk : ∀ c ∈ k.toList, c ≠ '\'') :
    parseSelector ("'" ++ k ++ "'") = .ok ⟨none, [.key k]⟩ := by
  rw [parseSelector, quoted_toList]
  exact parse_print ⟨none, [.key k]⟩ ⟨nofun, fun s hs => List.mem_singleton.mp hs ▸ hk⟩

/-- … so on an object it reads the value stored under that very key -/
theorem quoted_key_reads (k : String) (hk : ∀ c ∈ k.toList, c ≠ '\'' ∧ c ≠ ':') (fs : Row N) :
    execReader (.obj fs) ("'" ++ k ++ "'") = .ok (Val.get fs k) := by
  have hc : ∀ c ∈ ("'" ++ k ++ "'").toList, c ≠ ':' := by
    simp only [quoted_toList, List.mem_cons, List.mem_append, List.not_mem_nil, or_false]
    rintro c (rfl | h | rfl)
    · decide
    · exact (hk c h).2
    · decide
  rw [execReader, execReaderWith_single _ _ _ hc, quoted_key_literal k fun c hc => (hk c hc).1]
  rfl

example : execReader (.obj [("user.name", .str "ann"), ("user", .obj [("name", .str "bob")])] : Val Int)
    "'user.name'" = .ok (.str "ann") := by
  rw [execReader, execReaderWith_ofList]; decide +kernel

/-! ## top level functions -/

/-- `fn=>rest`: the function is applied to the result of the whole rest, i.e. last -/
theorem toplevel_fn_applied_last (reg : Registry N) (f : String) (steps : List Step) (d : Val N) :
    readerExecutor reg ⟨some f, steps⟩ d =
      evalSteps steps d >>= fun r =>
        match reg f with
        | some g => g r
        | none => .error .error := by
  rfl

/-- an unregistered name is an error, reported after the path has been evaluated -/
theorem toplevel_fn_unknown (reg : Registry N) (f : String) (steps : List Step) (d r : Val N)
    (hf : reg f = none) (hr : evalSteps steps d = .ok r) :
    readerExecutor reg ⟨some f, steps⟩ d = .error .error := by
  rw [toplevel_fn_applied_last, hr, hf]; rfl

/-- **the function registered NOW is the one applied**: after `RegisterTopLevelFunction(f, g)` — whatever was registered under
    `f` before, and whatever has been evaluated (and cached) before — `f=>steps` is `g` applied to what the steps return -/
theorem toplevel_fn_registered_now (reg : Registry N) (f : String) (g : Val N → R (Val N)) (steps : List Step) (d : Val N) :
    readerExecutor (register reg f g) ⟨some f, steps⟩ d = evalSteps steps d >>= g := by
  have : register reg f g f = some g := if_pos rfl
  rw [toplevel_fn_applied_last, this]

/-- registering a name again replaces the earlier function (the last registration wins) -/
theorem registered_again_overrides (reg : Registry N) (f : String) (g₁ g₂ : Val N → R (Val N)) :
    register (register reg f g₁) f g₂ = register reg f g₂ := by
  funext x; simp only [register]; split <;> rfl

/-- ... and leaves every other name as it was -/
theorem register_other_untouched (reg : Registry N) (f f' : String) (g : Val N → R (Val N)) (h : f' ≠ f) :
    register reg f g f' = reg f' :=
  if_neg h

/-- what `ExecReader` keeps per selector TEXT (the parse of every `::` part) is computed without the registry: a text that
    was evaluated under one registry is evaluated under the next one from the same parse, with the next one's functions -/
theorem parse_is_registry_free (reg₁ reg₂ : Registry N) (d : Val N) (s : String) (ps : List Parsed)
    (hp : parseAllL s.toList = .ok ps) :
    execReaderWith reg₁ d s = runAll reg₁ ps d ∧ execReaderWith reg₂ d s = runAll reg₂ ps d :=
  ⟨execReaderWith_of_parse reg₁ hp, execReaderWith_of_parse reg₂ hp⟩

/-- the text `name=>rest` parses to the function `name` and the steps of `rest` -/
theorem toplevel_fn_parse (f rest : String) (hf : ∀ c ∈ f.toList, isWord c = true) :
    parseSelector (f ++ "=>" ++ rest) =
      Parsed.mk (some f) <$> mapE parseTok (findAll matchFull 0 rest.toList) := by
  have hl : (f ++ "=>" ++ rest).toList = f.toList ++ '=' :: '>' :: rest.toList := by
    have : "=>".toList = ['=', '>'] := by decide
    simp [String.toList_append, this]
  simp only [parseSelector, hl, parseSelectorL_fn hf, String.ofList_toList]

/-- the same at the level of selector TEXT: `ExecReader(doc, "f=>rest")` (no `::` part) after `RegisterTopLevelFunction(f, g)`
    is `g` applied to what the steps of `rest` return on the document -/
theorem registered_now_text (reg : Registry N) (f rest : String) (g : Val N → R (Val N)) (d : Val N) (steps : List Step)
    (hf : ∀ c ∈ f.toList, isWord c = true)
    (hc : ∀ c ∈ (f ++ "=>" ++ rest).toList, c ≠ ':')
    (hp : mapE parseTok (findAll matchFull 0 rest.toList) = .ok steps) :
    execReaderWith (register reg f g) d (f ++ "=>" ++ rest) = evalSteps steps d >>= g := by
  rw [execReaderWith_single _ _ _ hc, toplevel_fn_parse f rest hf, hp]
  exact toplevel_fn_registered_now reg f g steps d

example : parseSelector ("mix" ++ "=>" ++ "data[each].x") = .ok ⟨some "mix", [.key "data", .dims [.each], .key "x"]⟩ := by
  rw [toplevel_fn_parse "mix" _ (by decide), String.toList_ofList]; decide +kernel

/-- `mix` and `distinct` are registered after `init()` -/
theorem builtins_mix : (builtins : Registry N) "mix" = some mix := if_pos rfl
theorem builtins_distinct : (builtins : Registry N) "distinct" = some distinct :=
  (if_neg (by decide)).trans (if_pos rfl)

/-- `Mix` flattens, and flattening what is already flat changes nothing -/
theorem mix_flat_idempotent (v w : Val N) (h : mix v = .ok w) : mix w = .ok w := by
  rcases mix_ok h with ⟨xs, rfl, rfl⟩ | ⟨fs, rfl, hd, rfl⟩
  · rw [mix, mixItems_of_flat (mixItems_notArr xs)]
  · simp only [mix, mixFields_of_flat (mixFields_notObj fs), hd]; rfl

example : mix (.obj [("a", .obj [("b", .num 1), ("c", .obj [("d", .num 2)])]), ("e", .arr [.num 3])] : Val Int)
    = .ok (.obj [("a_b", .num 1), ("a_c_d", .num 2), ("e", .arr [.num 3])]) := by decide +kernel
example : mix (.arr [.num 1, .arr [.num 2, .arr [.num 3]], .obj [("k", .arr [.num 4])]] : Val Int)
    = .ok (.arr [.num 1, .num 2, .num 3, .obj [("k", .arr [.num 4])]]) := by decide +kernel

/-- the result of `Mix` on an array holds no array, on an object no object -/
theorem mix_flat (v w : Val N) (h : mix v = .ok w) :
    (∀ ys, w = .arr ys → ∀ y ∈ ys, isArr y = false) ∧
    (∀ fs, w = .obj fs → ∀ p ∈ fs, isObj p.2 = false) := by
  rcases mix_ok h with ⟨xs, rfl, rfl⟩ | ⟨fs, rfl, _, rfl⟩
  · exact ⟨fun ys hys => by cases hys; exact mixItems_notArr xs, nofun⟩
  · exact ⟨nofun, fun gs hgs => by cases hgs; exact mixFields_notObj fs⟩

/-! ## wrong shapes are errors -/

def isScalar : Val N → Bool
  | .bool _ => true
  | .num _ => true
  | .str _ => true
  | _ => false

/-- a key or pipe step on a scalar, an index/keep step on an object or a scalar: an error -/
theorem wrong_shape_error (rest : List Step) (v : Val N) :
    (isScalar v = true → ∀ k, evalSteps (.key k :: rest) v = .error .error) ∧
    (isScalar v = true → ∀ ps, evalSteps (.pipe ps :: rest) v = .error .error) ∧
    (isScalar v = true ∨ isObj v = true → ∀ ds, evalSteps (.dims ds :: rest) v = .error .error) ∧
    (isScalar v = true ∨ isObj v = true → ∀ ds, evalSteps (.keep ds :: rest) v = .error .error) := by
  cases v with
  | bool _ | num _ | str _ => exact ⟨fun _ _ => rfl, fun _ _ => rfl, fun _ _ => rfl, fun _ _ => rfl⟩
  | obj _ => exact ⟨nofun, nofun, fun _ _ => rfl, fun _ _ => rfl⟩
  | null | arr _ => exact ⟨nofun, nofun, fun h => h.elim nofun nofun, fun h => h.elim nofun nofun⟩

/-- a further dimension applied to something that is not an array is an error -/
theorem dim_on_non_array (d : Dim) (ds : List Dim) (v : Val N) (h : isArr v = false) :
    selDim (d :: ds) v = .error .error :=
  selDim_of_notArr h d ds

example : evalSteps [.key "a", .key "b"] (.obj [("a", .num 1)] : Val Int) = .error .error := by
  rw [key_on_object]; exact ((wrong_shape_error [] _).1 (by decide) "b")

/-! ## selector text: dotted identifiers -/

theorem dotted_toList (ks : List String) : (".".intercalate ks).toList = joinWith '.' (ks.map String.toList) := by
  have : ".".toList = ['.'] := by decide
  rw [String.toList_intercalate, this, intercalate_eq_joinWith]

/-- identifiers made of `\w` characters, joined by dots, parse to exactly those key steps -/
theorem parse_keys (ks : List String) (h : ∀ k ∈ ks, k.toList ≠ [] ∧ ∀ c ∈ k.toList, isWord c = true) :
    parseSelector (".".intercalate ks) = .ok ⟨none, ks.map .key⟩ := by
  rw [parseSelector, dotted_toList]
  exact parseSelectorL_join fun k hk =>
    ⟨matchFull_word (S := (· = '.')) (fun _ e => e ▸ not_word_dot) (h k hk), by rw [parseTok_word (h k hk), String.ofList_toList]⟩

/-- … and `ExecReader` on such a path is `readPath` (the reading of dotted column names) -/
theorem exec_keys (ks : List String) (h : ∀ k ∈ ks, k.toList ≠ [] ∧ ∀ c ∈ k.toList, isWord c = true)
    (d : Val N) : execReader d (".".intercalate ks) = readPath ks d := by
  have hc : ∀ c ∈ (".".intercalate ks).toList, c ≠ ':' := by
    intro c hc
    rw [dotted_toList] at hc
    rcases mem_joinWith hc with rfl | ⟨w, hw, hcw⟩
    · decide
    · obtain ⟨k, hk, rfl⟩ := List.mem_map.mp hw
      exact isWord_ne ((h k hk).2 c hcw) not_word_colon
  rw [execReader, execReaderWith_single _ _ _ hc, parse_keys ks h]
  exact evalSteps_keys ks d

example : execReader (.obj [("users", .arr [.obj [("address", .obj [("zip_code", .num 7)])], .null])] : Val Int)
    "users.address.zip_code" = .ok (.arr [.num 7, .null]) := by
  rw [execReader, execReaderWith_ofList]; decide +kernel

example : parseSelector "users.address.zip_code" = .ok ⟨none, [.key "users", .key "address", .key "zip_code"]⟩ := by
  rw [parseSelector_ofList]; decide +kernel

/-! ## print/parse round trip

  `printSel` writes an AST as selector text (keys quoted, steps separated by dots, dimensions by
  colons, pipe items by commas); `Parsed.WF` says the AST is printable: keys without a quote,
  indices and bounds within `int64`, pipe keys non-empty `\w+`, pipe types and the function name
  `\w*`. -/

/-- every well-formed selector AST is read back from its printed text -/
theorem print_parse_roundtrip (p : Parsed) (hp : p.WF) :
    parseSelector (String.ofList (printSel p)) = .ok p := by
  simp only [parseSelector, String.toList_ofList]
  exact parse_print p hp

example : String.ofList (printSel ⟨some "mix", [.key "data", .dims [.each, .idx 0, .range none (some 12)],
    .keep [.idx 3], .pipe [("id", "string"), ("createdAt", "")]]⟩)
    = "mix=>'data'.[each:0:(begin:12)].[keep=>3].{id|string,createdAt}" := by
  apply congrArg String.ofList; decide +kernel

example : (⟨some "mix", [.key "user.name", .dims [.each, .range none (some 12)],
    .pipe [("id", "string"), ("createdAt", "")]]⟩ : Parsed).WF := by
  simp only [Parsed.WF, Step.WF, Dim.WF, List.forall_mem_cons, List.not_mem_nil, Option.mem_def, reduceCtorEq,
    Option.some.injEq, forall_eq', false_imp_iff, implies_true, and_true, true_and]
  decide +kernel

/-! ## The README's examples, evaluated by the kernel on small documents (`N := Int`)

  (`decide +kernel`: the default `decide` first evaluates the instance with the elaborator's
  `whnf`, which is far slower than the kernel on the tokenizer; no axiom is involved.  For the
  `rw` in front see `execReaderWith_ofList`.) -/

section examples
abbrev V := Val Int

def docUsers : V := .obj [("users", .arr [
  .obj [("name", .str "ann"), ("id", .num 1)],
  .obj [("name", .str "bob"), ("id", .num 2)]])]

def docGrid : V := .obj [("data", .arr [
  .arr [.arr [.num 1, .num 2], .arr [.num 3, .num 4]],
  .arr [.arr [.num 5, .num 6]]])]

def docTwelve : V := .obj [("users", .arr [.num 0, .num 1, .num 2, .num 3, .num 4, .num 5, .num 6,
  .num 7, .num 8, .num 9, .num 10, .num 11])]

def docUser : V := .obj [("user", .obj [("id", .num 42), ("name", .str "ann")]),
  ("user.name", .obj [("key", .str "literal")])]

def docNested : V := .obj [("data", .arr [
  .obj [("user", .arr [.str "a", .str "b"]), ("x", .arr [.obj [("y", .arr [.num 1, .num 2])], .obj [("y", .arr [.num 3])]])],
  .obj [("user", .arr [.str "c"]), ("x", .arr [.obj [("y", .arr [.num 4])]])]])]

-- Get an Array Element
example : parseSelector "users[0].name" = .ok ⟨none, [.key "users", .dims [.idx 0], .key "name"]⟩ := by
  rw [parseSelector_ofList]; decide +kernel
example : execReader docUsers "users[0].name" = .ok (.str "ann") := by
  rw [execReader, execReaderWith_ofList]; decide +kernel
example : execReader docUsers "users.name" = .ok (.arr [.str "ann", .str "bob"]) := by
  rw [execReader, execReaderWith_ofList]; decide +kernel
example : execReader docUsers "users[2].name" = .error .error := by
  rw [execReader, execReaderWith_ofList]; decide +kernel
-- Multi-dimensional Arrays
example : parseSelector "data[each:each:0]" = .ok ⟨none, [.key "data", .dims [.each, .each, .idx 0]]⟩ := by
  rw [parseSelector_ofList]; decide +kernel
example : execReader docGrid "data[each:each:0]" = .ok (.arr [.num 1, .num 3, .num 5]) := by
  rw [execReader, execReaderWith_ofList]; decide +kernel
-- Keep Array Structure
example : parseSelector "data[keep=>0:1]" = .ok ⟨none, [.key "data", .keep [.idx 0, .idx 1]]⟩ := by
  rw [parseSelector_ofList]; decide +kernel
example : execReader docGrid "data[keep=>0:1]" = .ok (.arr [.num 3, .num 4]) := by
  rw [execReader, execReaderWith_ofList]; decide +kernel
example : execReader docGrid "data[keep=>each:each:0]"
    = .ok (.arr [.arr [.num 1, .num 3], .arr [.num 5]]) := by
  rw [execReader, execReaderWith_ofList]; decide +kernel
-- Array Slices
example : parseSelector "users[(5:10)]" = .ok ⟨none, [.key "users", .dims [.range (some 5) (some 10)]]⟩ := by
  rw [parseSelector_ofList]; decide +kernel
example : execReader docTwelve "users[(5:10)]"
    = .ok (.arr [.num 5, .num 6, .num 7, .num 8, .num 9]) := by
  rw [execReader, execReaderWith_ofList]; decide +kernel
example : execReader docTwelve "users[(10:end)]" = .ok (.arr [.num 10, .num 11]) := by
  rw [execReader, execReaderWith_ofList]; decide +kernel
example : execReader docUsers "users[(5:10)]" = .error .error := by
  rw [execReader, execReaderWith_ofList]; decide +kernel
-- Reshape Data
example : parseSelector "user{id|string, createdAt}"
    = .ok ⟨none, [.key "user", .pipe [("id", "string"), ("createdAt", "")]]⟩ := by
  rw [parseSelector_ofList]; decide +kernel
example : execReader docUser "user{id|string, createdAt}"
    = .ok (.obj [("id", .str "42"), ("createdAt", .null)]) := by
  rw [execReader, execReaderWith_ofList]; decide +kernel
example : execReader docUser "user{id|number}" = .error .error := by
  rw [execReader, execReaderWith_ofList]; decide +kernel
-- Escape Keys
example : parseSelector "'user.name'.key" = .ok ⟨none, [.key "user.name", .key "key"]⟩ := by
  rw [parseSelector_ofList]; decide +kernel
example : execReader docUser "'user.name'.key" = .ok (.str "literal") := by
  rw [execReader, execReaderWith_ofList]; decide +kernel
example : execReader docUser "user.name.key" = .error .error := by
  rw [execReader, execReaderWith_ofList]; decide +kernel
-- Continue With
example : execReader docNested "data[each].user"
    = .ok (.arr [.arr [.str "a", .str "b"], .arr [.str "c"]]) := by
  rw [execReader, execReaderWith_ofList]; decide +kernel
example : execReader docNested "data[each].user::[0]" = .ok (.arr [.str "a", .str "b"]) := by
  rw [execReader, execReaderWith_ofList]; decide +kernel
-- Top Level Functions
example : parseSelector "mix=>data[each].x[each].y"
    = .ok ⟨some "mix", [.key "data", .dims [.each], .key "x", .dims [.each], .key "y"]⟩ := by
  rw [parseSelector_ofList]; decide +kernel
example : execReader docNested "data[each].x[each].y"
    = .ok (.arr [.arr [.arr [.num 1, .num 2], .arr [.num 3]], .arr [.arr [.num 4]]]) := by
  rw [execReader, execReaderWith_ofList]; decide +kernel
example : execReader docNested "mix=>data[each].x[each].y"
    = .ok (.arr [.num 1, .num 2, .num 3, .num 4]) := by
  rw [execReader, execReaderWith_ofList]; decide +kernel
example : execReader docNested "nosuchfn=>data" = .error .error := by
  rw [execReader, execReaderWith_ofList]; decide +kernel
example : execReader docUsers "distinct=>users[each].name::[(begin:1)]" = .ok (.arr [.str "ann"]) := by
  rw [execReader, execReaderWith_ofList]; decide +kernel
-- register, evaluate, register AGAIN, evaluate the same text: the second evaluation applies the second function
example : execReaderWith (register builtins "vf_top" (fun v => .ok (.arr [v]))) docNested "vf_top=>data[each].user"
    = .ok (.arr [.arr [.arr [.str "a", .str "b"], .arr [.str "c"]]]) := by
  rw [execReaderWith_ofList]; decide +kernel
example : execReaderWith (register (register builtins "vf_top" (fun v => .ok (.arr [v]))) "vf_top" (fun _ => .ok (.num 7)))
    docNested "vf_top=>data[each].user" = .ok (.num 7) := by
  rw [execReaderWith_ofList]; decide +kernel
example : execReaderWith (register builtins "mix" (fun _ => .ok .null)) docNested "mix=>data[each].x[each].y" = .ok .null := by
  rw [execReaderWith_ofList]; decide +kernel
-- a missing key is NULL, and stays NULL
example : execReader docUsers "users[0].address.zip" = .ok .null := by
  rw [execReader, execReaderWith_ofList]; decide +kernel
end examples

end Genql.C09

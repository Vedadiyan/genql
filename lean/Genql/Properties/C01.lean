/-
  Property C01 — WHERE keeps exactly the rows that satisfy the predicate, in source order.

  On the property's domain (`WT`: well-typed predicates) the evaluator's predicate fragment returns the
  SQL truth value `sem` and never an error (`evalPred_sound`); the filter loop of `exec()` and the whole path
  `SELECT * FROM t WHERE p` then return `rows.filter sem`.
-/
import Genql.Proofs.Pred
import Genql.Proofs.Exec
-- `valueOf_v`, `inLoop_multi_column_error`, `not_partitions` take the instance arguments of the `variable` line without using them;
-- their statements are kept as they stand
set_option linter.unusedSectionVars false
namespace Genql.C01
open Genql
variable {N : Type} [Num N] [LawfulNum N]

theorem valueOf_v (cur : Row N) (x : Val N) : valueOf cur (.v x) = .ok x := rfl

theorem cmpDispatch_sem {row : Row N} {κ : Kind} {op : CmpOp} {a b : Expr N}
    (hop : op ∈ [CmpOp.eq, .ne, .lt, .le, .gt, .ge]) (hκ : κ ≠ .bool ∨ op ∈ [CmpOp.eq, .ne])
    (ha : kindOf (operand row a) = some κ) (hb : kindOf (operand row b) = some κ) (r : IVal N) :
    cmpDispatch op (operand row a) r (operand row b) = .ok (sem row (.cmp op a b)) := by
  obtain ⟨c, hc, h0, hord⟩ := compareVal_tests ha hb
  -- each operator applies one test `t` to the sign `c` that `compare.Compare` returns
  have test : ∀ (t : Int → Bool) {s : Bool}, t c = s →
      (compareVal (operand row a) (operand row b) >>= fun c => pure (t c)) = .ok s :=
    fun t _ h => by rw [hc, ← h]; rfl
  simp only [List.mem_cons, List.mem_nil_iff, or_false] at hop
  rcases hop with rfl | rfl | rfl | rfl | rfl | rfl
  · exact test _ h0
  · exact test _ (decide_not.trans (congrArg not h0))
  all_goals obtain ⟨hlt, hgt, hge, hle⟩ := hord (hκ.resolve_right (by decide))
  · exact test _ hlt
  · exact test _ hle
  · exact test _ hgt
  · exact test _ hge

section
variable (env : Env N) (ctx : Ctx N) (hh : ctx.hard = false) {row : Row N} {κ : Kind}
include hh

omit [LawfulNum N] in
theorem cmp_operand {op : CmpOp} {a b : Expr N} (ha : Operand row κ a) {r : IVal N} {rv : Val N}
    (hb : evalExpr env ctx (withMarker row ctx.data) b = .ok r) (hrv : valueOf (withMarker row ctx.data) r = .ok rv) :
    evalExpr env ctx row (.cmp op a b) = cmpDispatch op (operand row a) r rv >>= fun res => pure (.v (.bool res)) := by
  rw [evalExpr_cmp, operand_value env ctx hh (scoped_marker row ctx.data) ha, C19.ok_bind, hb, C19.ok_bind, hrv,
    C19.ok_bind]

theorem cmp_eval {op : CmpOp} {a b : Expr N} (hop : op ∈ [CmpOp.eq, .ne, .lt, .le, .gt, .ge])
    (hκ : κ ≠ .bool ∨ op ∈ [CmpOp.eq, .ne]) (ha : Operand row κ a) (hb : Operand row κ b) :
    evalExpr env ctx row (.cmp op a b) = .ok (.v (.bool (sem row (.cmp op a b)))) := by
  obtain ⟨ib, heb, hvb⟩ := operand_eval env ctx hh (scoped_marker row ctx.data) hb
  rw [cmp_operand env ctx hh ha heb hvb, cmpDispatch_sem hop hκ ha.kind hb.kind]; rfl

omit [LawfulNum N] in
theorem tuple_operands {cur : Row N} (hs : Scoped row cur) {xs : List (Expr N)} (h : ∀ x ∈ xs, Operand row κ x) :
    evalExpr env ctx cur (.tuple xs) = .ok (.v (.arr (tupleVals row xs))) := by
  rw [evalExpr_tuple, evalArgs_eq_mapE, mapE_eq_map_of_ok fun x hx => operand_value env ctx hh hs (h x hx)]
  rfl

end

omit [Num N] [LawfulNum N] in
theorem tupleVals_kind {row : Row N} {κ : Kind} {xs : List (Expr N)} (h : ∀ x ∈ xs, Operand row κ x) :
    ∀ v ∈ tupleVals row xs, kindOf v = some κ := by
  intro v hv
  obtain ⟨x, hx, rfl⟩ := List.mem_map.mp hv
  exact (h x hx).kind

/-- the scan that `inLoop` (over scalars, and over one-column rows) and `notInLoop` share: the elements are compared with
    `lv` in turn, the first that compares equal ends the scan with `t`; `val` is the value an element contributes -/
theorem scan_any {α : Type} {κ : Kind} {lv : Val N} (hl : kindOf lv = some κ) (val : α → Val N) (loop : List α → R Bool)
    (t : Bool) (hnil : loop [] = .ok (!t))
    (hcons : ∀ x xs, kindOf (val x) = some κ →
      loop (x :: xs) = compareVal lv (val x) >>= fun c => if c = 0 then pure t else loop xs)
    (xs : List α) (hk : ∀ x ∈ xs, kindOf (val x) = some κ) :
    loop xs = .ok (t == xs.any fun x => eqV lv (val x)) := by
  induction xs with
  | nil => rw [hnil]; cases t <;> rfl
  | cons x xs ih =>
    have hx := hk x (by simp)
    obtain ⟨c, hc, h0, -⟩ := compareVal_tests hl hx
    rw [hcons x xs hx, hc, C19.ok_bind, List.any_cons, ← h0, ih fun y hy => hk y (by simp [hy])]
    by_cases hz : c = 0 <;> simp [hz, pure, Except.pure]

omit [LawfulNum N] in
theorem inLoop_cons_scalar {κ : Kind} (lv : Val N) {v : Val N} (hk : kindOf v = some κ) (rest : List (Val N)) :
    inLoop lv (v :: rest) = (do
      let c ← compareVal lv v
      if c = 0 then pure true else inLoop lv rest) := by
  cases v <;> cases hk <;> rfl

theorem inLoop_any {κ : Kind} {lv : Val N} (hl : kindOf lv = some κ) (vs : List (Val N))
    (hv : ∀ v ∈ vs, kindOf v = some κ) : inLoop lv vs = .ok (vs.any (eqV lv)) := by
  simpa using scan_any hl id (inLoop lv) true rfl (fun v rest hk => inLoop_cons_scalar lv hk rest) vs hv

/-- **IN over a single-column sub-query**: when the right side is the list of rows of a sub-query,
    each consisting of one column whose value has the kind of the left operand, `IN` is membership of
    the left value among those column values — whatever the column is called -/
theorem inLoop_subquery_rows {κ : Kind} {lv : Val N} (hl : kindOf lv = some κ) (cells : List (String × Val N))
    (hv : ∀ c ∈ cells, kindOf c.2 = some κ) :
    inLoop lv (cells.map fun c => Val.obj [c]) = .ok ((cells.map (·.2)).any (eqV lv)) := by
  simpa [List.any_map, Function.comp_def] using
    scan_any hl (·.2) (fun cells => inLoop lv (cells.map fun c => Val.obj [c])) true rfl (fun _ _ _ => rfl) cells hv

/-- a sub-query row with no or several columns on the right of IN is an error, never a guess (D50) -/
theorem inLoop_multi_column_error (lv : Val N) (c1 c2 : String × Val N) (fs : List (String × Val N))
    (rest : List (Val N)) :
    inLoop lv (Val.obj (c1 :: c2 :: fs) :: rest) = .error .error ∧ inLoop lv (Val.obj [] :: rest) = .error .error :=
  ⟨rfl, rfl⟩

theorem notInLoop_any {κ : Kind} {lv : Val N} (hl : kindOf lv = some κ) (vs : List (Val N))
    (hv : ∀ v ∈ vs, kindOf v = some κ) : notInLoop lv vs = .ok (!vs.any (eqV lv)) := by
  simpa using scan_any hl id (notInLoop lv) false rfl (fun _ _ _ => rfl) vs hv

/-- **The evaluator computes the SQL meaning of every well-typed predicate, without error.** -/
theorem evalPred_sound (env : Env N) (ctx : Ctx N) (hh : ctx.hard = false) (row : Row N)
    (e : Expr N) (h : WT row e) :
    evalExpr env ctx row e = .ok (.v (.bool (sem row e))) := by
  induction h with
  | lit b => rfl
  | and ha hb iha ihb => rw [evalExpr_and, iha, ihb]; rfl
  | or ha hb iha ihb => rw [evalExpr_or, iha, ihb]; rfl
  | not ha iha => rw [evalExpr_not, iha]; rfl
  | cmpNum hop ha hb | cmpStr hop ha hb => exact cmp_eval env ctx hh hop (.inl (by decide)) ha hb
  | cmpBool hop ha hb => exact cmp_eval env ctx hh (List.mem_append_left [CmpOp.lt, .le, .gt, .ge] hop) (.inr hop) ha hb
  | @inList κ a xs ha hxs =>
    rw [cmp_operand env ctx hh ha (tuple_operands env ctx hh (scoped_marker row ctx.data) hxs) rfl]
    exact congrArg (· >>= _) (inLoop_any ha.kind _ (tupleVals_kind hxs))
  | @notInList κ a xs ha hxs =>
    rw [cmp_operand env ctx hh ha (tuple_operands env ctx hh (scoped_marker row ctx.data) hxs) rfl]
    exact congrArg (· >>= _) (notInLoop_any ha.kind _ (tupleVals_kind hxs))
  | @like a b ha hb | @notLike a b ha hb =>
    obtain ⟨ib, heb, hvb⟩ := operand_eval env ctx hh (scoped_marker row ctx.data) hb
    obtain ⟨s, hs⟩ := str_of_kind ha.kind
    obtain ⟨p, hp⟩ := str_of_kind hb.kind
    simp only [cmp_operand env ctx hh ha heb hvb, sem_like, sem_notLike, hs, hp]; rfl
  | @between κ isB x lo hi hκ hx hlo hhi =>
    obtain ⟨il, hel, hvl⟩ := operand_eval env ctx hh (scoped_self row) hlo
    obtain ⟨ih, heh, hvh⟩ := operand_eval env ctx hh (scoped_self row) hhi
    obtain ⟨c1, hc1, -, hord1⟩ := compareVal_tests hx.kind hlo.kind
    obtain ⟨c2, hc2, -, hord2⟩ := compareVal_tests hx.kind hhi.kind
    obtain ⟨-, -, hge, -⟩ := hord1 hκ
    obtain ⟨-, -, -, hle⟩ := hord2 hκ
    rw [evalExpr_between, operand_value env ctx hh (scoped_self row) hx, C19.ok_bind, hel, C19.ok_bind, heh, C19.ok_bind,
      hvl, C19.ok_bind, hvh, C19.ok_bind, hc1, C19.ok_bind, hc2, C19.ok_bind, hge, hle]
    rfl
  | @isNull op a hop ha =>
    cases ha with
    | col k hk =>
      simp only [List.mem_cons, List.mem_nil_iff, or_false] at hop
      rcases hop with rfl | rfl <;> rw [evalExpr_is, evalExpr_col_value env ctx row hh] <;> rfl
  | @isBool op a ha =>
    obtain ⟨b, hb⟩ := bool_of_kind ha.kind
    rw [evalExpr_is, operand_value env ctx hh (scoped_self row) ha, sem_is, hb]
    cases op <;> rfl

/-- **C01 (filter loop).** For every table of objects and every predicate that is well typed on
    each row, the WHERE stage keeps exactly the rows whose SQL truth value is true — each once, in
    source order — and never fails. -/
theorem where_exact (env : Env N) (mkCtx : List (Val N) → Ctx N) (hh : ∀ src, (mkCtx src).hard = false)
    (post : List (Val N) → List (Val N) → R (List (Val N))) (src : List (Val N))
    (rows : List (Row N)) (p : Expr N) (hwt : ∀ r ∈ rows, WT r p) :
    levelLoop (fun src cur => do rawBool (← evalExpr env (mkCtx src) cur p)) post src (rows.map Val.obj)
      = .ok ((rows.filter (sem · p)).map Val.obj) := by
  apply levelLoop_flat
  intro r hr
  rw [evalPred_sound env (mkCtx src) (hh src) r p (hwt r hr)]; rfl

theorem whereStage_sem {env : Env N} {data : Row N} {grouped : Bool} {p : Expr N} {src : List (Val N)} {r : Row N}
    (h : WT r p) : whereStage env data grouped p src r = .ok (sem r p) :=
  whereStage_ok (evalPred_sound env _ rfl r p h)

/-- `SELECT *` on one row: the row itself, copied (and without the navigation marker) -/
def starRow (r : Row N) : Val N := .obj (copyInto [] (delKey "<-" r))

/-- **C01 (whole modelled path).** `SELECT * FROM t WHERE p` over a document whose key `t` holds an
    array of objects returns exactly the satisfying rows, in source order, each once. -/
theorem where_exact_model (env : Env N) (data : Row N) (t : String) (rows : List (Row N)) (p : Expr N)
    (ht : Val.get data t = .arr (rows.map Val.obj)) (hwt : ∀ r ∈ rows, WT r p) :
    execQuery env data {} (.select [] false [.star] (.table [t] "" t) p [] (.bool true) [] none none)
      = .ok (.arr ((rows.filter (sem · p)).map starRow)) := by
  rw [execQuery_flat ht (sem · p) (fun r hr => whereStage_sem (hwt r hr)),
    postStage_ungrouped (selStage_rows (fun r => copyInto [] (delKey "<-" r)) rfl fun _ _ => rfl),
    tailStage_plain]
  rfl

/-- NOT IN is the complement of IN (as evaluated by the engine, on the property's domain). -/
theorem notIn_complement (env : Env N) (ctx : Ctx N) (hh : ctx.hard = false) (row : Row N) {κ : Kind}
    (a : Expr N) (xs : List (Expr N)) (ha : Operand row κ a) (hxs : ∀ x ∈ xs, Operand row κ x) :
    ∃ b, evalExpr env ctx row (.cmp .in_ a (.tuple xs)) = .ok (.v (.bool b)) ∧
         evalExpr env ctx row (.cmp .notIn a (.tuple xs)) = .ok (.v (.bool (!b))) :=
  ⟨_, evalPred_sound env ctx hh row _ (.inList ha hxs), evalPred_sound env ctx hh row _ (.notInList ha hxs)⟩

/-- `x BETWEEN lo AND hi` agrees with `x >= lo AND x <= hi` (inclusive at both ends). -/
theorem between_iff_ge_le (env : Env N) (ctx : Ctx N) (hh : ctx.hard = false) (row : Row N) {κ : Kind}
    (hκ : κ ≠ .bool) (x lo hi : Expr N)
    (hx : Operand row κ x) (hlo : Operand row κ lo) (hhi : Operand row κ hi) :
    evalExpr env ctx row (.between true x lo hi) =
      evalExpr env ctx row (.and (.cmp .ge x lo) (.cmp .le x hi)) := by
  rw [evalPred_sound env ctx hh row _ (.between hκ hx hlo hhi), evalExpr_and,
    cmp_eval env ctx hh (by decide) (.inl hκ) hx hlo, cmp_eval env ctx hh (by decide) (.inl hκ) hx hhi]
  rfl

/-- a predicate and its negation partition the rows: disjoint, and together a permutation of
    the table (in fact an interleaving that preserves source order on each side) -/
theorem not_partitions (rows : List (Row N)) (p : Expr N) :
    (rows.filter (sem · p) ++ rows.filter (sem · (.not p))).Perm rows ∧
    ∀ r, r ∈ rows.filter (sem · p) → r ∈ rows.filter (sem · (.not p)) → False := by
  refine ⟨List.filter_append_perm (sem · p) rows, fun r h1 h2 => ?_⟩
  have h1 := (List.mem_filter.mp h1).2
  have h2 : (!sem r p) = true := (List.mem_filter.mp h2).2
  rw [h1] at h2; cases h2

/-! ### LIKE: the matcher the engine's regular expression denotes is the SQL LIKE relation -/

theorem anySuffix_iff (f : List Char → Bool) (s : List Char) :
    anySuffix f s = true ↔ ∃ t, t <:+ s ∧ f t = true := by
  induction s with
  | nil =>
    simp only [anySuffix, List.suffix_nil]
    constructor
    · intro h; exact ⟨[], rfl, h⟩
    · rintro ⟨t, rfl, h⟩; exact h
  | cons c cs ih =>
    simp only [anySuffix, Bool.or_eq_true, ih, List.suffix_cons_iff]
    constructor
    · rintro (h | ⟨t, ht, hf⟩)
      · exact ⟨_, .inl rfl, h⟩
      · exact ⟨t, .inr ht, hf⟩
    · rintro ⟨t, (rfl | ht), hf⟩
      · exact .inl hf
      · exact .inr ⟨t, ht, hf⟩

theorem like_pct_of_suffix {ps t : List Char} (h : Like ps t) :
    ∀ s, t <:+ s → Like ('%' :: ps) s := by
  intro s
  induction s with
  | nil => intro hs; rw [List.suffix_nil.mp hs] at h; exact .pctSkip h
  | cons c cs ih =>
    intro hs
    rcases List.suffix_cons_iff.mp hs with rfl | hs'
    · exact .pctSkip h
    · exact .pctEat (ih hs')

theorem suffix_of_like_pct {q s : List Char} (h : Like q s) :
    ∀ ps, q = '%' :: ps → ∃ t, t <:+ s ∧ Like ps t := by
  induction h with
  | nil => intro ps h; cases h
  | pctSkip h _ => intro ps hq; cases hq; exact ⟨_, List.suffix_refl _, h⟩
  | pctEat _ ih =>
    intro ps hq
    obtain ⟨t, ht, hl⟩ := ih ps hq
    exact ⟨t, List.suffix_cons_iff.mpr (.inr ht), hl⟩
  | under _ _ => intro ps hq; cases hq
  | lit hp _ _ _ => intro ps hq; cases hq; exact absurd rfl hp

/-- **LIKE translation.** The anchored matcher for the expression `RegexComparison` builds
    (`_` ↦ `.`, `%` ↦ `.*`, anything else quoted) accepts exactly the SQL LIKE relation. -/
theorem like_translation (pat s : List Char) : likeMatch pat s = true ↔ Like pat s := by
  induction pat generalizing s with
  | nil =>
    cases s with
    | nil => simp [likeMatch]; exact .nil
    | cons c cs => simp [likeMatch]; intro h; cases h
  | cons p ps ih =>
    by_cases hp : p = '%'
    · subst hp
      simp only [likeMatch, if_true, anySuffix_iff]
      constructor
      · rintro ⟨t, ht, hm⟩; exact like_pct_of_suffix ((ih t).mp hm) s ht
      · intro h
        obtain ⟨t, ht, hl⟩ := suffix_of_like_pct h ps rfl
        exact ⟨t, ht, (ih t).mpr hl⟩
    · simp only [likeMatch, hp, if_false]
      cases s with
      | nil => simp; intro h; cases h; exact hp rfl
      | cons c cs =>
        simp only [Bool.and_eq_true, Bool.or_eq_true, decide_eq_true_eq, beq_iff_eq, ih]
        constructor
        · rintro ⟨(rfl | rfl), hl⟩
          · exact .under hl
          · by_cases hu : p = '_'
            · subst hu; exact .under hl
            · exact .lit hp hu hl
        · intro h
          cases h with
          | pctSkip => exact absurd rfl hp
          | pctEat => exact absurd rfl hp
          | under hl => exact ⟨.inl rfl, hl⟩
          | lit _ _ hl => exact ⟨.inr rfl, hl⟩

/-! ### the premises are satisfiable (non-vacuity) -/

example : WT (N := Int) [("a", .num 3), ("s", .str "Ab")]
    (.and (.cmp .ge (.col ["a"]) (.num 2)) (.cmp .like (.col ["s"]) (.str "a%"))) :=
  .and (.cmpNum (by decide) (.col "a" .num (by decide) rfl) (.num 2))
       (.like (.col "s" .str (by decide) rfl) (.str "a%"))

example : sem (N := Int) [("a", .num 3), ("s", .str "Ab")]
    (.and (.cmp .ge (.col ["a"]) (.num 2)) (.cmp .like (.col ["s"]) (.str "a%"))) = true := by decide +kernel

end Genql.C01

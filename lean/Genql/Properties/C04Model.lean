/-
  C04, second half: the join code the driver runs (`Genql.Model.Join`: `toCatalog`, `catLookup`,
  `pairAll`, `nullAll`, `hashJoinRun`, `nestedRun`) IS the pure catalogue / hash join / nested loop that
  `Genql.Properties.C04` relates to the textbook join — whenever key extraction succeeds and the rows are objects.
-/
import Genql.Properties.C04
-- helpers and audited statements that do not compute on numbers stand among those that do: the unused `[Num N]` is not reported
set_option linter.unusedSectionVars false
namespace Genql.C04
open Genql Genql.C03 Genql.C06
variable {N : Type} [Num N]

def toPair (e : CatEntry N) : String × List (Val N) := (e.key, e.rows)

theorem catInsert_pure (k : String) (km : Row N) (row : Val N) (acc : List (CatEntry N)) :
    (catInsert k km row acc).map toPair = addG keq k row (acc.map toPair) := by
  induction acc with
  | nil => rfl
  | cons e es ih =>
    rw [catInsert, List.map_cons, addG]
    show _ = if decide (e.key = k) then _ else _
    by_cases h : e.key = k
    · rw [if_pos h, decide_eq_true h]; rfl
    · rw [if_neg h, decide_eq_false h, List.map_cons, ih]; rfl

theorem toCatalog_pure (cols : List (List String)) (keyf : Val N → String) (kmf : Val N → Row N)
    (rows : List (Val N)) (acc : List (CatEntry N)) (hk : ∀ row ∈ rows, rowKey cols row = .ok (keyf row, kmf row)) :
    ∃ out, toCatalog cols rows acc = .ok out ∧ out.map toPair = scanG keq keyf rows (acc.map toPair) := by
  induction rows generalizing acc with
  | nil => exact ⟨acc, rfl, rfl⟩
  | cons row rows ih =>
    obtain ⟨hk0, hk⟩ := List.forall_mem_cons.mp hk
    obtain ⟨out, h1, h2⟩ := ih (catInsert (keyf row) (kmf row) row acc) hk
    refine ⟨out, ?_, ?_⟩
    · rw [toCatalog, hk0]; exact h1
    · rw [h2, catInsert_pure]; rfl

theorem toCatalog_catalogue (cols : List (List String)) (keyf : Val N → String) (kmf : Val N → Row N)
    (rows : List (Val N)) (hk : ∀ row ∈ rows, rowKey cols row = .ok (keyf row, kmf row)) :
    ∃ out, toCatalog cols rows [] = .ok out ∧ out.map toPair = catalogue keyf rows :=
  toCatalog_pure cols keyf kmf rows [] hk

theorem catInsert_forall {P : String → Row N → Prop} {k : String} {km : Row N} (row : Val N) {acc : List (CatEntry N)}
    (hk : P k km) (hacc : ∀ e ∈ acc, P e.key e.keyMap) : ∀ e ∈ catInsert k km row acc, P e.key e.keyMap := by
  induction acc with
  | nil => exact List.forall_mem_singleton.mpr hk
  | cons e0 es ih =>
    obtain ⟨h0, hes⟩ := List.forall_mem_cons.mp hacc
    rw [catInsert]
    split
    · exact List.forall_mem_cons.mpr ⟨h0, hes⟩
    · exact List.forall_mem_cons.mpr ⟨h0, ih hes⟩

theorem toCatalog_forall {P : String → Row N → Prop} (cols : List (List String)) (keyf : Val N → String)
    (kmf : Val N → Row N) (rows : List (Val N)) (acc out : List (CatEntry N))
    (hk : ∀ row ∈ rows, rowKey cols row = .ok (keyf row, kmf row)) (h : toCatalog cols rows acc = .ok out)
    (hrows : ∀ row ∈ rows, P (keyf row) (kmf row)) (hacc : ∀ e ∈ acc, P e.key e.keyMap) :
    ∀ e ∈ out, P e.key e.keyMap := by
  induction rows generalizing acc with
  | nil => cases h; exact hacc
  | cons row rows ih =>
    obtain ⟨hk0, hk⟩ := List.forall_mem_cons.mp hk
    obtain ⟨hrow, hrows⟩ := List.forall_mem_cons.mp hrows
    rw [toCatalog, hk0] at h
    exact ih _ hk h hrows (catInsert_forall row hrow hacc)

theorem toCatalog_entries (cols : List (List String)) (keyf : Val N → String) (kmf : Val N → Row N) :
    ∀ (rows : List (Val N)) (acc out : List (CatEntry N)),
      (∀ row ∈ rows, rowKey cols row = .ok (keyf row, kmf row)) →
      toCatalog cols rows acc = .ok out →
      ∀ e ∈ out, (∃ row ∈ rows, e.key = keyf row ∧ e.keyMap = kmf row) ∨
                 (∃ e' ∈ acc, e.key = e'.key ∧ e.keyMap = e'.keyMap) :=
  fun rows acc out hk h =>
    toCatalog_forall (P := fun k km => (∃ row ∈ rows, k = keyf row ∧ km = kmf row) ∨ ∃ e' ∈ acc, k = e'.key ∧ km = e'.keyMap)
      cols keyf kmf rows acc out hk h (fun row hr => .inl ⟨row, hr, rfl, rfl⟩) (fun e he => .inr ⟨e, he, rfl, rfl⟩)

theorem catLookup_pure (k : String) (c : List (CatEntry N)) :
    (match catLookup k c with | some e => e.rows | none => []) = lookupCat k (c.map toPair) := by
  induction c with
  | nil => rfl
  | cons e es ih =>
    rw [catLookup, List.map_cons]
    show _ = if e.key = k then _ else _
    by_cases h : e.key = k
    · rw [if_pos h, if_pos h]
    · rw [if_neg h, if_neg h, ih]

theorem catLookup_mem {k : String} {c : List (CatEntry N)} {e : CatEntry N} (h : catLookup k c = some e) : e ∈ c := by
  induction c with
  | nil => cases h
  | cons e' es ih =>
    rw [catLookup] at h
    split at h
    · cases h; exact List.mem_cons_self
    · exact List.mem_cons_of_mem _ (ih h)

def AllObj (rows : List (Val N)) : Prop := ∀ r ∈ rows, ∃ fs, r = Val.obj fs

/-- `mergeRows` made total: the merged row `{…l, …r}`, the LEFT row when one side is no object -/
def mergeObj (l r : Val N) : Val N :=
  match l, r with
  | .obj a, .obj b => .obj (copyInto (copyInto [] a) b)
  | l, _ => l

/-- `nullExtend` made total -/
def padObj (rightIdent : String) (l : Val N) : Val N :=
  match l with
  | .obj a => .obj (setKey rightIdent .null (copyInto [] a))
  | l => l

theorem pairAll_pure (ls rs : List (Val N)) (hl : AllObj ls) (hr : AllObj rs) :
    pairAll ls rs = .ok (ls.flatMap fun l => rs.map (mergeObj l)) :=
  mapE_flatten fun l hlm => by
    obtain ⟨a, rfl⟩ := hl l hlm
    exact mapE_eq_map_of_ok fun r hrm => by
      obtain ⟨b, rfl⟩ := hr r hrm
      rfl

theorem nullAll_pure (ls : List (Val N)) (rightIdent : String) (hl : AllObj ls) :
    nullAll ls rightIdent = .ok (ls.map (padObj rightIdent)) :=
  mapE_eq_map_of_ok fun l hlm => by
    obtain ⟨a, rfl⟩ := hl l hlm
    rfl

/-- the pure hash join over catalogue entries (inner or left), as the model computes it -/
def hashPure (inner : Bool) (rightIdent : String) (l r : List (String × List (Val N))) : List (Val N) :=
  l.flatMap fun g =>
    let rs := lookupCat g.1 r
    if rs.isEmpty then (if inner then [] else g.2.map (padObj rightIdent))
    else g.2.flatMap fun a => rs.map (mergeObj a)

theorem hashMatch_pure (inner : Bool) (rightIdent : String) (r : List (CatEntry N)) (le : CatEntry N)
    (hl : AllObj le.rows) (hr : ∀ e ∈ r, AllObj e.rows) (hne : ∀ e ∈ r, e.rows ≠ []) :
    hashMatch inner rightIdent r le = .ok (
      let rs := lookupCat le.key (r.map toPair)
      if rs.isEmpty then (if inner then [] else le.rows.map (padObj rightIdent))
      else le.rows.flatMap fun a => rs.map (mergeObj a)) := by
  rw [← catLookup_pure le.key r, hashMatch]
  cases hc : catLookup le.key r with
  | none =>
    cases inner
    · exact nullAll_pure le.rows rightIdent hl
    · rfl
  | some re =>
    have hmem := catLookup_mem hc
    obtain ⟨a, as, hrows⟩ := List.exists_cons_of_ne_nil (hne re hmem)
    have := pairAll_pure le.rows re.rows hl (hr re hmem)
    dsimp only
    rw [hrows] at this ⊢
    exact this

/-- `hne`: on a right group that is found but empty `HashJoinMatchFunc` pads with NULLs even for an INNER join
    (`join.go`, `ok || !inner` and then `len(right) > 0`); the groups of a catalogue are never empty -/
theorem hashJoinRun_pure (inner : Bool) (rightIdent : String) (l r : List (CatEntry N))
    (hl : ∀ e ∈ l, AllObj e.rows) (hr : ∀ e ∈ r, AllObj e.rows) (hne : ∀ e ∈ r, e.rows ≠ []) :
    hashJoinRun inner rightIdent l r = .ok (hashPure inner rightIdent (l.map toPair) (r.map toPair)) := by
  rw [hashPure, List.flatMap_map]
  exact mapE_flatten fun le hle => hashMatch_pure inner rightIdent r le (hl le hle) hr hne

theorem hashPure_inner_eq (rightIdent : String) (kl kr : Val N → String) (ls rs : List (Val N)) :
    hashPure true rightIdent (catalogue kl ls) (catalogue kr rs) = hashInner mergeObj kl kr ls rs := by
  unfold hashPure hashInner
  refine flatMap_congr_mem fun g _ => ?_
  dsimp only
  cases lookupCat g.1 (catalogue kr rs) with
  | nil => exact (List.flatMap_eq_nil_iff.mpr fun _ _ => rfl).symm
  | cons a as => rfl

theorem hashPure_left_eq (rightIdent : String) (kl kr : Val N → String) (ls rs : List (Val N)) :
    hashPure false rightIdent (catalogue kl ls) (catalogue kr rs) =
      hashLeft mergeObj (padObj rightIdent) kl kr ls rs :=
  rfl

/-- the pure nested loop over catalogue entries (inner or left), as the model computes it -/
def nestedPure (inner : Bool) (rightIdent : String) (onKey : String → String → Bool)
    (l r : List (String × List (Val N))) : List (Val N) :=
  l.flatMap fun gl =>
    let rows := r.flatMap fun gr =>
      if onKey gl.1 gr.1 then gl.2.flatMap fun a => gr.2.map (mergeObj a) else []
    if r.any (fun gr => onKey gl.1 gr.1) then rows
    else if inner then rows else rows ++ gl.2.map (padObj rightIdent)

theorem nestedPair_pure (on : Row N → R Bool) (onKey : String → String → Bool) (le re : CatEntry N)
    (hon : on (copyInto (copyInto [] le.keyMap) re.keyMap) = .ok (onKey le.key re.key))
    (hl : AllObj le.rows) (hr : AllObj re.rows) :
    nestedPair on le re = .ok (if onKey le.key re.key
      then some (le.rows.flatMap fun a => re.rows.map (mergeObj a)) else none) := by
  rw [nestedPair, hon, C19.ok_bind]
  cases onKey le.key re.key
  · rfl
  · rw [if_pos rfl, pairAll_pure le.rows re.rows hl hr]; rfl

theorem blocks_flatten {α β : Type} (c : α → Bool) (f : α → List β) (r : List α) :
    ((r.map fun x => if c x then some (f x) else none).map fun p => p.getD []).flatten =
      (r.flatMap fun x => if c x then f x else []) ∧
    (r.map fun x => if c x then some (f x) else none).any Option.isSome = r.any c := by
  induction r with
  | nil => exact ⟨rfl, rfl⟩
  | cons x r ih =>
    simp only [List.map_cons, List.flatten_cons, List.flatMap_cons, List.any_cons, ih]
    cases c x <;> exact ⟨rfl, rfl⟩

theorem nestedMatch_pure (on : Row N → R Bool) (onKey : String → String → Bool) (inner : Bool)
    (rightIdent : String) (le : CatEntry N) (r : List (CatEntry N))
    (hon : ∀ re ∈ r, on (copyInto (copyInto [] le.keyMap) re.keyMap) = .ok (onKey le.key re.key))
    (hl : AllObj le.rows) (hr : ∀ e ∈ r, AllObj e.rows) :
    nestedMatch on inner rightIdent le r = .ok (
      let rows := (r.map toPair).flatMap fun gr =>
        if onKey le.key gr.1 then le.rows.flatMap fun a => gr.2.map (mergeObj a) else []
      if (r.map toPair).any (fun gr => onKey le.key gr.1) then rows
      else if inner then rows else rows ++ le.rows.map (padObj rightIdent)) := by
  have hb := blocks_flatten (fun re : CatEntry N => onKey le.key re.key)
    (fun re => le.rows.flatMap fun a => re.rows.map (mergeObj a)) r
  rw [nestedMatch, mapE_eq_map_of_ok fun re hre => nestedPair_pure on onKey le re (hon re hre) hl (hr re hre),
    C19.ok_bind, hb.1, hb.2, List.flatMap_map, List.any_map]
  show _ = Except.ok (if r.any (fun re => onKey le.key re.key) then _ else _)
  cases r.any (fun re => onKey le.key re.key)
  · cases inner
    · show (nullAll le.rows rightIdent >>= _) = _
      rw [nullAll_pure le.rows rightIdent hl]; rfl
    · rfl
  · rfl

/-- `hon`: ON, evaluated on the union of two key maps, is a function of the two key texts -/
theorem nestedRun_pure (on : Row N → R Bool) (onKey : String → String → Bool) (inner : Bool)
    (rightIdent : String) (l r : List (CatEntry N))
    (hon : ∀ le ∈ l, ∀ re ∈ r, on (copyInto (copyInto [] le.keyMap) re.keyMap) = .ok (onKey le.key re.key))
    (hl : ∀ e ∈ l, AllObj e.rows) (hr : ∀ e ∈ r, AllObj e.rows) :
    nestedRun on inner rightIdent l r = .ok (nestedPure inner rightIdent onKey (l.map toPair) (r.map toPair)) := by
  rw [nestedPure, List.flatMap_map]
  exact mapE_flatten fun le hle => nestedMatch_pure on onKey inner rightIdent le r (hon le hle) (hl le hle) hr

theorem nestedPure_inner_eq (rightIdent : String) (onKey : String → String → Bool)
    (kl kr : Val N → String) (ls rs : List (Val N)) :
    nestedPure true rightIdent onKey (catalogue kl ls) (catalogue kr rs) =
      nestedInner mergeObj onKey kl kr ls rs := by
  unfold nestedPure nestedInner
  exact flatMap_congr_mem fun g _ => ite_self _

theorem nestedPure_left_eq (rightIdent : String) (onKey : String → String → Bool)
    (kl kr : Val N → String) (ls rs : List (Val N)) :
    nestedPure false rightIdent onKey (catalogue kl ls) (catalogue kr rs) =
      nestedLeft mergeObj (padObj rightIdent) onKey kl kr ls rs :=
  rfl

theorem entries_allObj {key : Val N → String} {rows : List (Val N)} {c : List (CatEntry N)}
    (hc : c.map toPair = catalogue key rows) (hrows : AllObj rows) : ∀ e ∈ c, AllObj e.rows :=
  fun e he a ha => hrows a (catalogue_member_mem key rows (toPair e) (hc ▸ List.mem_map_of_mem he) a ha)

theorem entries_nonempty {key : Val N → String} {rows : List (Val N)} {c : List (CatEntry N)}
    (hc : c.map toPair = catalogue key rows) : ∀ e ∈ c, e.rows ≠ [] :=
  fun e he => catalog_group_nonempty key rows (toPair e) (hc ▸ List.mem_map_of_mem he)

/-- **hash join, end to end**: for object rows whose key columns can be read, `ToCatalog` on both
    sides followed by `HashJoinFunc` succeeds and returns a permutation of the textbook inner /
    LEFT OUTER equi-join on the key texts -/
theorem hash_join_model_textbook (inner : Bool) (ri : String) (lc rc : List (List String))
    (kl kr : Val N → String) (kml kmr : Val N → Row N) (ls rs : List (Val N))
    (hkl : ∀ row ∈ ls, rowKey lc row = .ok (kl row, kml row))
    (hkr : ∀ row ∈ rs, rowKey rc row = .ok (kr row, kmr row))
    (hl : AllObj ls) (hr : AllObj rs) :
    ∃ cl cr out, toCatalog lc ls [] = .ok cl ∧ toCatalog rc rs [] = .ok cr ∧
      hashJoinRun inner ri cl cr = .ok out ∧
      out.Perm (if inner then textbookInner mergeObj kl kr ls rs
                else textbookLeft mergeObj (padObj ri) kl kr ls rs) := by
  obtain ⟨cl, hcl, hclp⟩ := toCatalog_catalogue lc kl kml ls hkl
  obtain ⟨cr, hcr, hcrp⟩ := toCatalog_catalogue rc kr kmr rs hkr
  refine ⟨cl, cr, _, hcl, hcr,
    hashJoinRun_pure inner ri cl cr (entries_allObj hclp hl) (entries_allObj hcrp hr)
      (entries_nonempty hcrp), ?_⟩
  rw [hclp, hcrp]
  cases inner
  · rw [hashPure_left_eq]; exact hash_left_perm_textbook _ _ kl kr ls rs
  · rw [hashPure_inner_eq]; exact hash_inner_perm_textbook _ kl kr ls rs

/-- **nested loop, end to end**: the same for `JoinFunc` with an arbitrary ON condition that is a
    function of the two key texts (ON only mentions the extracted key columns): ON is evaluated
    once per pair of key groups, on the union of the key maps of two source rows -/
theorem nested_join_model_textbook (inner : Bool) (ri : String) (lc rc : List (List String))
    (on : Row N → R Bool) (onKey : String → String → Bool)
    (kl kr : Val N → String) (kml kmr : Val N → Row N) (ls rs : List (Val N))
    (hkl : ∀ row ∈ ls, rowKey lc row = .ok (kl row, kml row))
    (hkr : ∀ row ∈ rs, rowKey rc row = .ok (kr row, kmr row))
    (hon : ∀ a ∈ ls, ∀ b ∈ rs, on (copyInto (copyInto [] (kml a)) (kmr b)) = .ok (onKey (kl a) (kr b)))
    (hl : AllObj ls) (hr : AllObj rs) :
    ∃ cl cr out, toCatalog lc ls [] = .ok cl ∧ toCatalog rc rs [] = .ok cr ∧
      nestedRun on inner ri cl cr = .ok out ∧
      out.Perm (if inner then textbookOn mergeObj (fun a b => onKey (kl a) (kr b)) ls rs
                else textbookLeftOn mergeObj (padObj ri) (fun a b => onKey (kl a) (kr b)) ls rs) := by
  obtain ⟨cl, hcl, hclp⟩ := toCatalog_catalogue lc kl kml ls hkl
  obtain ⟨cr, hcr, hcrp⟩ := toCatalog_catalogue rc kr kmr rs hkr
  have hon' : ∀ le ∈ cl, ∀ re ∈ cr,
      on (copyInto (copyInto [] le.keyMap) re.keyMap) = .ok (onKey le.key re.key) := by
    intro le hle re hre
    obtain ⟨a, ha, h1, h2⟩ := (toCatalog_entries lc kl kml ls [] cl hkl hcl le hle).resolve_right nofun
    obtain ⟨b, hb, h3, h4⟩ := (toCatalog_entries rc kr kmr rs [] cr hkr hcr re hre).resolve_right nofun
    rw [h1, h2, h3, h4]; exact hon a ha b hb
  refine ⟨cl, cr, _, hcl, hcr,
    nestedRun_pure on onKey inner ri cl cr hon'
      (entries_allObj hclp hl) (entries_allObj hcrp hr), ?_⟩
  rw [hclp, hcrp]
  cases inner
  · rw [nestedPure_left_eq]; exact nested_left_perm_textbook _ _ _ onKey kl kr (fun _ _ => rfl) ls rs
  · rw [nestedPure_inner_eq]; exact nested_inner_perm_textbook _ _ onKey kl kr (fun _ _ => rfl) ls rs

/-- `(*Join).Exec` without STRAIGHT_JOIN and with the sides as written (`jt.left`; a RIGHT join swaps them) -/
theorem execJoin_left (jt : JoinType) (hs : jt.straight = false) (hl : jt.left = true) (on : Row N → R Bool)
    (onExpr : Expr N) (left right : List (Val N)) (li ri : String) :
    execJoin jt on onExpr left right li ri = (do
      let lc ← extractCols li ri onExpr
      let l ← toCatalog lc left []
      let rc ← extractCols ri li onExpr
      let r ← toCatalog rc right []
      if hashJoinAnalyze onExpr then hashJoinRun jt.inner ri l r else nestedRun on jt.inner ri l r) := by
  rw [execJoin, hs, hl]; rfl

theorem hashJoinAnalyze_cmp {op : CmpOp} (h : op ≠ .eq) (a b : Expr N) : hashJoinAnalyze (.cmp op a b) = false := by
  cases op <;> first | rfl | exact absurd rfl h

example : nestedLeft (fun (a : Nat × Nat) (b : Nat × Nat) => (a, some b)) (fun a => (a, none)) (fun k k' => decide (k < k'))
      (·.1) (·.1) [(1, 10), (5, 50), (1, 11)] [(2, 7), (3, 9)]
    = [((1, 10), some (2, 7)), ((1, 11), some (2, 7)), ((1, 10), some (3, 9)), ((1, 11), some (3, 9)), ((5, 50), none)] := by
  decide +kernel

end Genql.C04

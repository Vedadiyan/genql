/-
  C14 — ASYNC / SPIN / SPINASYNC / ONCE change when a function runs, not what the query returns.
  The theorems over `Reach` / `run` quantify over EVERY schedule (interleaving of the main goroutine
  and the spawned goroutines), every number of rows, every select list and every pure user function.
-/
import Genql.Proofs.AsyncTrace

namespace Genql.C14
open Genql.Async
variable {A V : Type}

/-- `Exec` has returned the rows (a *complete* schedule). -/
def Complete (q : Query A V) (sched : List Nat) : Prop := (run q (init : St V) sched).phase = .returned

instance (q : Query A V) (sched : List Nat) : Decidable (Complete q sched) := by
  unfold Complete; infer_instance

theorem Complete.past {q : Query A V} {sched : List Nat} (hc : Complete q sched) :
    (run q (init : St V) sched).phase.past = true := by
  rw [show _ = Phase.returned from hc]; rfl

/-! ### ASYNC / SPINASYNC -/

/-- In every complete schedule, when `Exec` returns: all calls have been
    evaluated, the wait-group counter is `0`, every ASYNC call has been invoked exactly once, its
    goroutine has finished and the row's column holds `f (args)` — the value the unqualified call
    puts there; every SPINASYNC call has been invoked exactly once and has finished. -/
theorem async_complete (q : Query A V) (sched : List Nat) (hc : Complete q sched) :
    let s := run q (init : St V) sched
    s.pc = q.total ∧ s.wg = 0 ∧
    ∀ c, c < q.total →
      (q.strat c = .async →
        s.invoked c = 1 ∧ s.task c = .done ∧ s.col c = .val (some (q.f (q.name c) (q.args c)))) ∧
      (q.strat c = .spinasync → s.invoked c = 1 ∧ s.task c = .done) := by
  intro s
  have h : Inv q s := inv_run q sched
  have hph : s.phase = .returned := hc
  have hpast := hc.past
  have hpc := h.past_pc hpast
  refine ⟨hpc, h.wg_past hpast, fun c hlt => ⟨fun ha => ?_, fun hs => ?_⟩⟩
  · have hd := h.alldone hpast c hlt (by rw [ha]; rfl)
    refine ⟨(h.of_done hd).1, hd, ?_⟩
    cases h.acol c (by omega) ha with
    | inl hp =>
      have := h.aptr c hp
      simp [pendingPosts, hph] at this
    | inr hv => exact hv
  · have hd := h.alldone hpast c hlt (by rw [hs]; rfl)
    exact ⟨(h.of_done hd).1, hd⟩

theorem unqualified_item (q : Query A V) (c : Nat) :
    q.unqualified.item c =
      (if (q.item c).strat = .async then { q.item c with strat := .plain } else q.item c) := by
  simp only [Query.item, Query.unqualified, List.length_map, List.getD_eq_getElem?_getD,
    List.getElem?_map]
  cases q.items[c % q.items.length]? <;> simp

theorem unqualified_name (q : Query A V) (c : Nat) : q.unqualified.name c = q.name c := by
  simp only [Query.name, unqualified_item]
  split <;> rfl

theorem unqualified_value (q : Query A V) (c : Nat) : q.unqualified.value c = q.value c := by
  simp only [Query.value, unqualified_name]; rfl

theorem unqualified_total (q : Query A V) : q.unqualified.total = q.total := by
  simp [Query.total, Query.unqualified]

theorem unqualified_strat_async (q : Query A V) (c : Nat) (h : q.strat c = .async) :
    q.unqualified.strat c = .plain := by
  have h' : (q.item c).strat = .async := h
  simp [Query.strat, unqualified_item, h']

theorem unqualified_strat_other (q : Query A V) (c : Nat) (h : q.strat c ≠ .async) :
    q.unqualified.strat c = q.strat c := by
  have h' : ¬ (q.item c).strat = .async := h
  simp [Query.strat, unqualified_item, h']

/-- Whatever the two schedules, the column of an ASYNC call after `Exec`
    equals the column the same query leaves there with the qualifier dropped. -/
theorem async_equals_plain (q : Query A V) (sched sched' : List Nat)
    (hc : Complete q sched) (hc' : Complete q.unqualified sched')
    (c : Nat) (hlt : c < q.total) (ha : q.strat c = .async) :
    (run q (init : St V) sched).col c = (run q.unqualified (init : St V) sched').col c := by
  have h1 := ((async_complete q sched hc).2.2 c hlt).1 ha
  -- in the unqualified query the call is plain, and `Exec` has passed it
  have h' := inv_run q.unqualified sched'
  have hpc := h'.past_pc hc'.past
  have h2 := h'.plainc c (by rw [hpc, unqualified_total]; exact hlt) (unqualified_strat_async q c ha)
  rw [h1.2.2, h2.2, unqualified_value]
  rfl

/-! ### The counter -/

/-- Number of calls `< k` satisfying `p`. -/
def cnt (p : Nat → Bool) : Nat → Nat
  | 0 => 0
  | k + 1 => cnt p k + (if p k then 1 else 0)

/-- `wg.Add(1)`s performed: one per started waited goroutine, plus the one of the call whose
    `go` statement has not been reached yet. -/
def addsDone (q : Query A V) (s : St V) : Nat :=
  cnt (fun c => (q.strat c).waited && decide (s.task c ≠ .unspawned)) q.total +
    (if s.phase = .run true then 1 else 0)

/-- `wg.Done()`s performed. -/
def donesDone (q : Query A V) (s : St V) : Nat :=
  cnt (fun c => (q.strat c).waited && decide (s.task c = .done)) q.total

theorem open_add_done_pt (b : Bool) (t : Task) :
    (if (b && t.isOpen) = true then 1 else 0) + (if (b && decide (t = .done)) = true then 1 else 0) =
      (if (b && decide (t ≠ .unspawned)) = true then 1 else 0) := by
  cases b <;> cases t <;> rfl

theorem open_add_done (q : Query A V) (task : Nat → Task) : ∀ k,
    openC q task k + cnt (fun c => (q.strat c).waited && decide (task c = .done)) k =
      cnt (fun c => (q.strat c).waited && decide (task c ≠ .unspawned)) k
  | 0 => rfl
  | k + 1 => by
    have ih := open_add_done q task k
    simp only [openC, cnt, wgt]
    have := open_add_done_pt (q.strat k).waited (task k)
    omega

/-- **Counter invariant**: in every reachable state `counter = spawned_waited − done`. -/
theorem counter_invariant (q : Query A V) {s : St V} (r : Reach q s) :
    s.wg + donesDone q s = addsDone q s ∧ s.wg = addsDone q s - donesDone q s := by
  have h := inv_reach r
  have e1 := open_add_done q s.task q.total
  have e2 := openC_eq_of_unspawned_ge q s.task s.pc (fun c hc => (h.ahead c hc).1) q.total h.pc_le
  have e3 := h.wgc
  unfold addsDone donesDone
  omega

/-- `wg.Done()` never drives the counter negative (no `sync: negative WaitGroup counter` panic):
    whenever a goroutine is about to call `Done`, the counter is positive. -/
theorem done_counter_positive (q : Query A V) {s : St V} (r : Reach q s) (c : Nat)
    (hd : s.task c = .stored ∨ (s.task c = .ran ∧ q.strat c = .spinasync)) : 0 < s.wg := by
  have h := inv_reach r
  -- such a goroutine is waited for and open, hence counted
  obtain ⟨hw, ho⟩ : (q.strat c).waited = true ∧ (s.task c).isOpen = true := by
    rcases hd with x | x
    · exact ⟨by rw [h.async_of_stored x]; rfl, by rw [x]; rfl⟩
    · exact ⟨by rw [x.2]; rfl, by rw [x.1]; rfl⟩
  have := h.wgt_le_wg (h.lt_of_started (started_of_open ho))
  rwa [wgt_eq_one hw ho] at this

/-! ### SPIN / SPINASYNC add no column -/

theorem spin_no_column (q : Query A V) {s : St V} (r : Reach q s) (c : Nat)
    (hs : q.strat c = .spin) : s.col c = .absent :=
  (inv_reach r).nocol c (Or.inl hs)

theorem spinasync_no_column (q : Query A V) {s : St V} (r : Reach q s) (c : Nat)
    (hs : q.strat c = .spinasync) : s.col c = .absent :=
  (inv_reach r).nocol c (Or.inr hs)

/-- No call is ever invoked twice, whatever its qualifier, in any reachable state (in particular a
    SPIN call, which `Exec` does not wait for, runs at most once). -/
theorem invoked_at_most_once (q : Query A V) {s : St V} (r : Reach q s) (c : Nat) :
    s.invoked c ≤ 1 := by
  have h := inv_reach r
  by_cases hlt : c < s.pc
  · cases hst : q.strat c with
    | plain => have := h.plainc c hlt hst; omega
    | once =>
      obtain ⟨c0, _, _, _, hi⟩ := h.ocall c hlt hst
      rw [hi]; split <;> omega
    | async | spin | spinasync => exact (h.tstate c (by rw [hst]; rfl)).invoked_le_one
  · have := (h.ahead c (by omega)).2.1; omega

/-! ### ONCE -/

/-- In every reachable state ONCE has invoked each function at most
    once; and when `Exec` has returned, for every ONCE call `c` there is a call `c0` in the
    *first row* — the same for all ONCE calls of that function — such that the function was
    invoked exactly once by ONCE, on behalf of `c0` only, and the column of `c` holds that one
    value `f (args c0)`: every row sees the same value. -/
theorem once_single_invocation (q : Query A V) (sched : List Nat) :
    let s := run q (init : St V) sched
    (∀ m, s.onceCount m ≤ 1) ∧
    (Complete q sched → ∃ first : Nat → Nat, ∀ c, c < q.total → q.strat c = .once →
      let c0 := first (q.name c)
      c0 ≤ c ∧ c0 < q.items.length ∧ q.strat c0 = .once ∧ q.name c0 = q.name c ∧
      s.onceCount (q.name c) = 1 ∧
      s.invoked c = (if c0 = c then 1 else 0) ∧
      s.col c = .val (some (q.f (q.name c) (q.args c0)))) := by
  intro s
  have h : Inv q s := inv_run q sched
  refine ⟨fun m => ?_, fun hc => ?_⟩
  · have := h.omemo m
    unfold memoOk at this
    cases hf : s.onceFirst m <;> simp only [hf] at this <;> omega
  · have hpc := h.past_pc hc.past
    refine ⟨fun m => (s.onceFirst m).getD 0, fun c hlt hs => ?_⟩
    obtain ⟨c0, h1, h2, h3, h4⟩ := h.ocall c (by omega) hs
    have hm := h.omemo (q.name c)
    simp only [memoOk, h1] at hm
    -- the same item in row 0 is a ONCE call of the same function, hence `c0` is in row 0
    have hk : 0 < q.items.length := Nat.pos_of_ne_zero fun e => by simp [Query.total, e] at hlt
    have hr : 0 < q.rows := Nat.pos_of_ne_zero fun e => by simp [Query.total, e] at hlt
    have hitem : q.item (c % q.items.length) = q.item c := by simp [Query.item]
    have hlt' : c % q.items.length < s.pc := by
      have := Nat.mod_lt c hk
      have : q.items.length ≤ q.total := Nat.le_mul_of_pos_left _ hr
      omega
    obtain ⟨c1, g1, g2, _, _⟩ := h.ocall (c % q.items.length) hlt' (by rw [Query.strat, hitem]; exact hs)
    rw [Query.name, hitem, ← Query.name, h1] at g1
    cases g1
    show (s.onceFirst (q.name c)).getD 0 ≤ c ∧ _
    simp only [h1, Option.getD_some]
    refine ⟨h2, by have := Nat.mod_lt c hk; omega, hm.2.1, hm.2.2.1, hm.2.2.2.2, h4, ?_⟩
    rw [h3, Query.value, hm.2.2.1]

/-! ### Immediate functions -/

/-- **The decision table** of `FunExpr`: an immediate function is rejected exactly with ASYNC, SPIN
    and SPINASYNC; a non-immediate function is never rejected. -/
theorem immediate_table :
    rejects true .async = true ∧ rejects true .spin = true ∧ rejects true .spinasync = true ∧
    rejects true .plain = false ∧ rejects true .once = false ∧
    (∀ s, rejects false s = false) := by
  refine ⟨rfl, rfl, rfl, rfl, rfl, fun s => rfl⟩

/-- For a call of an immediate function qualified with ASYNC, SPIN or
    SPINASYNC: in every reachable state the function has not been invoked, no goroutine was
    started and the row has no such column; when the main goroutine evaluates the call, `Exec`
    fails; and `Exec` never returns rows. -/
theorem immediate_rejects (q : Query A V) (c : Nat) (hlt : c < q.total)
    (himm : q.imm (q.name c) = true)
    (hq : q.strat c = .async ∨ q.strat c = .spin ∨ q.strat c = .spinasync) :
    (∀ s, Reach q s → s.invoked c = 0 ∧ s.task c = .unspawned ∧ s.col c = .absent ∧
      s.phase ≠ .returned) ∧
    (∀ s added, s.pc = c → (evalCall q s added).phase = .failed ∧
      (evalCall q s added).invoked = s.invoked ∧ (evalCall q s added).task = s.task) := by
  have hrej : q.rejected c = true := by
    unfold Query.rejected rejects
    rcases hq with x | x | x <;> simp [himm, x, Strategy.spawns]
  refine ⟨fun s r => ?_, fun s added hpc => ?_⟩
  · have h := inv_reach r
    have hge : s.pc ≤ c := by
      apply Classical.byContradiction; intro hn
      have := h.behind c (by omega); rw [hrej] at this; cases this
    have ha := h.ahead c hge
    refine ⟨ha.2.1, ha.1, ha.2.2, fun hret => ?_⟩
    have := h.past_pc (by rw [hret]; rfl)
    omega
  · subst hpc
    rw [evalCall_rejected hrej]
    exact ⟨rfl, rfl, rfl⟩

/-! ### Wait precedes post-processing -/

/-- (1) The main goroutine leaves the row loop only through `wg.Wait()`,
    which is enabled only when the counter is `0`; (2) a post-processor step (the only step that
    replaces a pointer column) happens only after that: in every reachable state in which a
    post-processor is about to run, or has run, all calls have been evaluated, the counter is `0`
    and every waited goroutine has finished. -/
theorem wait_before_post (q : Query A V) {s : St V} (r : Reach q s) :
    (∀ s' added, s.phase = .run added → s.pc = q.total → step q s 0 = some s' →
      s.wg = 0 ∧ s'.phase = .post s.posts ∧ s'.col = s.col) ∧
    (∀ s' added, s.phase = .run added → step q s 0 = some s' →
      ∀ c, s.col c = .ptr → s'.col c = .ptr) ∧
    (∀ rest, s.phase = .post rest →
      s.pc = q.total ∧ s.wg = 0 ∧ ∀ c, c < q.total → (q.strat c).waited = true → s.task c = .done) := by
  have h := inv_reach r
  refine ⟨fun s' added hph hpc st => ?_, fun s' added hph st c hp => ?_, fun rest hph => ?_⟩
  · simp only [step, stepMain, hph, hpc, Nat.lt_irrefl, if_false] at st
    split at st
    · rename_i hwg; cases st; exact ⟨hwg, rfl, rfl⟩
    · cases st
  · have hc := (h.pend c (h.aptr c hp)).1
    simp only [step, stepMain, hph] at st
    split at st
    · cases st
      rw [evalCall_col_ne q s added (by omega)]; exact hp
    · split at st
      · cases st; exact hp
      · cases st
  · have hpast : s.phase.past = true := by rw [hph]; rfl
    exact ⟨h.past_pc hpast, h.wg_past hpast, h.alldone hpast⟩

/-! ### No deadlock inside a query -/

/-- Until `Exec` has returned (rows or an error) some goroutine can always take a step: the
    library's internal parallelism cannot deadlock the query. -/
theorem async_no_deadlock (q : Query A V) {s : St V} (r : Reach q s)
    (hrun : s.phase ≠ .returned ∧ s.phase ≠ .failed) : ∃ t s', step q s t = some s' := by
  have h := inv_reach r
  cases hph : s.phase with
  | returned => exact absurd hph hrun.1
  | failed => exact absurd hph hrun.2
  | post rest =>
    cases rest <;> exact ⟨0, by simp only [step, stepMain, hph]; exact ⟨_, rfl⟩⟩
  | run added =>
    by_cases hlt : s.pc < q.total
    · exact ⟨0, by simp only [step, stepMain, hph, hlt, if_true]; exact ⟨_, rfl⟩⟩
    · by_cases hwg : s.wg = 0
      · exact ⟨0, by simp only [step, stepMain, hph, hlt, hwg, if_true, if_false]; exact ⟨_, rfl⟩⟩
      · have hadd := h.run_false hph (.inl hlt); subst hadd
        have e := h.wg_eq (by rw [hph]; nofun)
        obtain ⟨c, _, hw, ho⟩ := openC_pos q s.task s.pc (by omega)
        refine ⟨c + 1, ?_⟩
        simp only [step, stepTask]
        cases ht : s.task c with
        | unspawned | done => rw [ht] at ho; cases ho
        | pending | stored => exact ⟨_, rfl⟩
        | ran =>
          cases hs : q.strat c with
          | async | spinasync => exact ⟨_, rfl⟩
          | spin | plain | once => rw [hs] at hw; cases hw

/-! ### The shape of the extracted event order -/

/-- Per-call event order of an ASYNC call in the model. -/
def canonAsync : List Ev := [.wgAdd, .go, .invoke, .store, .wgDone, .wgWait, .post]
/-- Per-call event order of a SPINASYNC call in the model. -/
def canonSpinAsync : List Ev := [.wgAdd, .go, .invoke, .wgDone, .wgWait]

theorem splitAt_spec {e : Ev} {l a b : List Ev} (h : splitAt e l = some (a, b)) :
    l = a ++ e :: b ∧ e ∉ a := by
  induction l generalizing a b with
  | nil => simp [splitAt] at h
  | cons x xs ih =>
    unfold splitAt at h
    split at h
    · rename_i hx
      cases h; subst hx; simp
    · rename_i hx
      split at h
      · rename_i a' b' hs
        have := ih hs
        cases h
        refine ⟨by rw [this.1]; rfl, ?_⟩
        simp only [List.mem_cons, not_or]
        exact ⟨fun c => hx c.symm, this.2⟩
      · cases h

theorem splitAt_append (e : Ev) : ∀ (a b : List Ev), e ∉ a → splitAt e (a ++ e :: b) = some (a, b)
  | [], b, _ => by simp [splitAt]
  | x :: a, b, h => by
    simp only [List.mem_cons, not_or] at h
    have hx : ¬ x = e := fun c => h.1 c.symm
    simp [splitAt, hx, splitAt_append e a b h.2]

theorem bodyOk_iff (body : List Ev) :
    bodyOk body = true ↔ body = [.invoke, .store, .wgDone] ∨ body = [.invoke, .wgDone] := by
  constructor
  · intro h
    unfold bodyOk at h
    split at h
    · exact Or.inl rfl
    · exact Or.inr rfl
    · cases h
  · rintro (h | h) <;> subst h <;> rfl

/-- **The shape is the protocol order.**  `AsyncShape` accepts exactly the lists
    `wgAdd, go, invoke, (store,) wgDone, wgWait, post*`. -/
theorem asyncShape_iff (evs : List Ev) :
    AsyncShape evs = true ↔
      ∃ body posts, evs = [.wgAdd, .go] ++ body ++ .wgWait :: posts ∧
        (body = [.invoke, .store, .wgDone] ∨ body = [.invoke, .wgDone]) ∧ ∀ e, e ∈ posts → e = .post := by
  constructor
  · intro h
    unfold AsyncShape at h
    split at h
    · cases h
    · rename_i pre rest hs1
      simp only [Bool.and_eq_true, beq_iff_eq] at h
      obtain ⟨hpre, h⟩ := h
      split at h
      · cases h
      · rename_i body tail hs2
        simp only [Bool.and_eq_true, List.all_eq_true, beq_iff_eq] at h
        have e1 := (splitAt_spec hs1).1
        have e2 := (splitAt_spec hs2).1
        refine ⟨body, tail, ?_, (bodyOk_iff body).1 h.1, h.2⟩
        rw [e1, hpre, e2]; simp
  · rintro ⟨body, posts, he, hb, hp⟩
    subst he
    have h1 : splitAt .go ([.wgAdd, .go] ++ body ++ .wgWait :: posts) =
        some ([.wgAdd], body ++ .wgWait :: posts) := by
      have := splitAt_append .go [.wgAdd] (body ++ .wgWait :: posts) (by simp)
      simpa using this
    have h2 : splitAt .wgWait (body ++ .wgWait :: posts) = some (body, posts) :=
      splitAt_append .wgWait body posts (by rcases hb with h | h <;> subst h <;> simp)
    unfold AsyncShape
    simp only [h1, h2, Bool.and_eq_true, List.all_eq_true, beq_iff_eq]
    exact ⟨by simp, (bodyOk_iff body).2 hb, hp⟩

/-- The protocol hypotheses the model builds in, stated about a program-order event list. -/
structure ProtocolHyps (evs : List Ev) : Prop where
  /-- `wg.Add` precedes `go` (so the counter already accounts for the goroutine when it starts,
      and `Wait` cannot pass before it is counted). -/
  add_before_go : ∀ a b, evs = a ++ .go :: b → .wgAdd ∈ a
  /-- exactly one `Add`, one `go`, one `Done`, one `invoke`, one `Wait`. -/
  counts : evs.count .wgAdd = 1 ∧ evs.count .go = 1 ∧ evs.count .wgDone = 1 ∧
    evs.count .invoke = 1 ∧ evs.count .wgWait = 1
  /-- the goroutine body (between `go` and `Wait`) ends with `Done`; the call and the store
      precede it. -/
  body_ends_done : ∃ pre body rest, evs = pre ++ .go :: body ++ .wgWait :: rest ∧
    .go ∉ pre ∧ .wgWait ∉ body ∧ body.getLast? = some .wgDone ∧
    (∀ a b, body = a ++ .wgDone :: b → .invoke ∈ a ∧ (.store ∈ body → .store ∈ a))
  /-- `Wait` precedes every post-processor. -/
  wait_before_post : ∀ a b, evs = a ++ .post :: b → .wgWait ∈ a
  /-- a store, if any, follows the call. -/
  store_after_invoke : ∀ a b, evs = a ++ .store :: b → .invoke ∈ a

theorem mem_before {α : Type} {x y : α} {evs l r a b : List α} (hl : evs = l ++ r) (hx : x ∉ l)
    (hy : y ∈ l) (h : evs = a ++ x :: b) : y ∈ a := by
  subst hl
  induction l generalizing a with
  | nil => cases hy
  | cons z l ih =>
    simp only [List.mem_cons, not_or] at hx
    cases a with
    | nil => simp at h; exact absurd h.1.symm hx.1
    | cons w a =>
      simp only [List.cons_append, List.cons.injEq] at h
      rcases List.mem_cons.1 hy with rfl | hy
      · rw [h.1]; exact List.mem_cons_self
      · exact List.mem_cons_of_mem _ (ih hx.2 hy h.2)

/-- **A program of that shape satisfies the protocol hypotheses.** -/
theorem asyncShape_protocol (evs : List Ev) (h : AsyncShape evs = true) : ProtocolHyps evs := by
  obtain ⟨body, posts, rfl, hb, hp⟩ := (asyncShape_iff evs).1 h
  have hcount : ∀ e, e ≠ .post → posts.count e = 0 := fun e hne =>
    List.count_eq_zero.2 fun hm => hne (hp e hm)
  -- each question "what precedes an `x`" is settled inside a literal prefix that holds no `x`
  rcases hb with rfl | rfl
  · exact
    { add_before_go := fun _ _ => mem_before (l := [.wgAdd]) rfl (by simp) (by simp)
      counts := by simp [hcount]
      body_ends_done := ⟨[.wgAdd], [.invoke, .store, .wgDone], posts, rfl, by simp, by simp, rfl,
        fun _ _ hab => ⟨mem_before (l := [.invoke, .store]) rfl (by simp) (by simp) hab,
          fun _ => mem_before (l := [.invoke, .store]) rfl (by simp) (by simp) hab⟩⟩
      wait_before_post := fun _ _ =>
        mem_before (l := [.wgAdd, .go, .invoke, .store, .wgDone, .wgWait]) rfl (by simp) (by simp)
      store_after_invoke := fun _ _ =>
        mem_before (l := [.wgAdd, .go, .invoke]) rfl (by simp) (by simp) }
  · exact
    { add_before_go := fun _ _ => mem_before (l := [.wgAdd]) rfl (by simp) (by simp)
      counts := by simp [hcount]
      body_ends_done := ⟨[.wgAdd], [.invoke, .wgDone], posts, rfl, by simp, by simp, rfl,
        fun _ _ hab => ⟨mem_before (l := [.invoke]) rfl (by simp) (by simp) hab, by simp⟩⟩
      wait_before_post := fun _ _ =>
        mem_before (l := [.wgAdd, .go, .invoke, .wgDone, .wgWait]) rfl (by simp) (by simp)
      store_after_invoke := fun _ _ =>
        mem_before (l := [.wgAdd, .go, .invoke]) rfl (by simp) (by simp) }

/-- A program of that shape performs, for each call, the same events in the same order as the
    model (`canonAsync` / `canonSpinAsync`), up to the number of post-processors it registers. -/
theorem asyncShape_model_order (evs : List Ev) (h : AsyncShape evs = true) :
    ∃ k, evs = canonAsync.dropLast ++ List.replicate k .post ∨
         evs = canonSpinAsync ++ List.replicate k .post := by
  obtain ⟨body, posts, he, hb, hp⟩ := (asyncShape_iff evs).1 h
  refine ⟨posts.length, ?_⟩
  have : posts = List.replicate posts.length .post := List.eq_replicate_iff.2 ⟨rfl, hp⟩
  rcases hb with hb | hb <;> subst hb
  · left; rw [he, this]; simp [canonAsync]
  · right; rw [he, this]; simp [canonSpinAsync]

/-- **The model has the shape.**  In EVERY complete schedule the events performed on behalf of an
    ASYNC (SPINASYNC) call — `wgWait` included — are, in order, exactly `canonAsync`
    (`canonSpinAsync`), which `AsyncShape` accepts. -/
theorem model_has_shape (q : Query A V) (sched : List Nat) (hc : Complete q sched) (c : Nat)
    (hlt : c < q.total) :
    (q.strat c = .async → proj c (trace q (init : St V) sched) = canonAsync) ∧
    (q.strat c = .spinasync → proj c (trace q (init : St V) sched) = canonSpinAsync) ∧
    ((q.strat c).waited = true → AsyncShape (proj c (trace q (init : St V) sched)) = true) := by
  have h : Inv q (run q (init : St V) sched) := inv_run q sched
  have hph : (run q (init : St V) sched).phase = .returned := hc
  have hpast := hc.past
  have hpc := h.past_pc hpast
  have key : (q.strat c).waited = true → proj c (trace q (init : St V) sched) =
      [.wgAdd, .go] ++ taskEvs (q.strat c) .done ++ waitEvs (q.strat c) c .returned := by
    intro hw
    rw [trace_expected q sched c hlt hw, expected, if_pos (hpc ▸ hlt), hph,
      h.alldone hpast c hlt hw]
  have hA : q.strat c = .async → proj c (trace q (init : St V) sched) = canonAsync :=
    fun ha => by rw [key (by rw [ha]; rfl), ha]; rfl
  have hS : q.strat c = .spinasync → proj c (trace q (init : St V) sched) = canonSpinAsync :=
    fun hs => by rw [key (by rw [hs]; rfl), hs]; rfl
  refine ⟨hA, hS, fun hw => ?_⟩
  cases hs : q.strat c with
  | async => rw [hA hs]; rfl
  | spinasync => rw [hS hs]; rfl
  | plain | spin | once => rw [hs] at hw; cases hw

-- `canonAsync` (also the order extracted from `FunExpr` + `execAndPostProcess`) and `canonSpinAsync`
example : AsyncShape [.wgAdd, .go, .invoke, .store, .wgDone, .wgWait, .post] = true := by decide +kernel
example : AsyncShape [.wgAdd, .go, .invoke, .wgDone, .wgWait] = true := by decide +kernel
-- two post-processors per ASYNC call (the one of `FunExpr` and the one of `SelectExpr`)
example : AsyncShape [.wgAdd, .go, .invoke, .store, .wgDone, .wgWait, .post, .post] = true := by decide +kernel
-- mutants: `go` before `Add`; `Done` not last in the body; post-processing before the `Wait`;
-- no `Add` (that is SPIN); no `Wait`
example : AsyncShape [.go, .wgAdd, .invoke, .store, .wgDone, .wgWait, .post] = false := by decide +kernel
example : AsyncShape [.wgAdd, .go, .wgDone, .invoke, .store, .wgWait, .post] = false := by decide +kernel
example : AsyncShape [.wgAdd, .go, .invoke, .store, .wgDone, .post, .wgWait] = false := by decide +kernel
example : AsyncShape [.go, .invoke, .wgWait] = false := by decide +kernel
example : AsyncShape [.wgAdd, .go, .invoke, .store, .wgDone, .post] = false := by decide +kernel

/-! ### Nested queries forward their wait -/

namespace NestedProof
open Genql.Async.Nested

structure NInv (s : Nested.St) : Prop where
  pw : s.pw = (if s.main = .added ∨ s.fwd = .waiting ∨ s.fwd = .passed then 1 else 0)
  fwd0 : s.main = .start ∨ s.main = .added → s.fwd = .notStarted
  fwd1 : s.main = .spawned ∨ s.main = .returned → s.fwd ≠ .notStarted
  passed : s.fwd = .passed ∨ s.fwd = .done → s.cw = 0

/-- The six control points of the forwarding protocol, in the order they are passed: these are
    all the reachable states. -/
inductive Stage : Nested.St → Prop
  | start (cw : Nat) : Stage ⟨cw, 0, .notStarted, .start⟩
  | added (cw : Nat) : Stage ⟨cw, 1, .notStarted, .added⟩
  | waiting (cw : Nat) : Stage ⟨cw, 1, .waiting, .spawned⟩
  | passed : Stage ⟨0, 1, .passed, .spawned⟩
  | done : Stage ⟨0, 0, .done, .spawned⟩
  | returned : Stage ⟨0, 0, .done, .returned⟩

theorem stage_step {s s' : Nested.St} {t : Nat} (h : Stage s) (st : Nested.step s t = some s') :
    Stage s' := by
  match t with
  | 0 =>
    -- parent main: start → added → waiting, done → returned; blocked while `pw = 1`
    cases h <;> cases st <;> constructor
  | 1 =>
    -- the forwarder: waiting → passed once `cw = 0`, passed → done
    cases h with
    | waiting cw =>
      simp only [Nested.step] at st
      split at st <;> cases st
      rename_i h0; cases h0; exact .passed
    | passed => cases st; exact .done
    | _ => cases st
  | t + 2 =>
    -- a sub-query goroutine calling `Done` stays in the stage
    simp only [Nested.step] at st
    split at st <;> cases st
    cases h <;> constructor

theorem stage_reach {k : Nat} {s : Nested.St} (r : Nested.Reach k s) : Stage s := by
  induction r with
  | init => exact .start k
  | step _ st ih => exact stage_step ih st

theorem ninv_reach {k : Nat} {s : Nested.St} (r : Nested.Reach k s) : NInv s := by
  cases stage_reach r <;> constructor <;> simp

end NestedProof

/-- In every interleaving, once the parent's `wg.Wait()` has returned
    (so before any post-processor — including the sub-query's, which were appended to the
    parent's — runs), every goroutine of the sub-query has finished. -/
theorem nested_wait_forwarded (k : Nat) {s : Nested.St} (r : Nested.Reach k s)
    (hret : s.main = .returned) : s.cw = 0 ∧ s.fwd = .done ∧ s.pw = 0 := by
  cases NestedProof.stage_reach r <;> cases hret
  exact ⟨rfl, rfl, rfl⟩

-- three sub-query goroutines still running when the parent starts forwarding; a schedule
example : Nested.run (Nested.init 3) [0, 0, 0, 1, 2, 3, 1, 0, 4, 1, 1, 0] = ⟨0, 0, .done, .returned⟩ := by
  decide +kernel
-- the parent's `Wait` is blocked while a sub-query goroutine is running
example : (Nested.step (Nested.run (Nested.init 3) [0, 0, 2, 3, 1]) 0).isNone = true := by decide +kernel

/-! ### Non-vacuity: concrete 2-row / 2-item instances -/

/-- `SELECT ASYNC f0(x), ONCE f1(x) FROM t` over two rows; `f m a = 10 * m + a`, the argument of
    call `c` is `c + 1`. -/
def q1 : Query Nat Nat where
  rows := 2
  items := [⟨.async, 0⟩, ⟨.once, 1⟩]
  f := fun m a => 10 * m + a
  args := fun c => c + 1
  imm := fun m => m == 7

/-- Main runs to the `Wait` (and is blocked there), the goroutines of calls 2 and 0 then run in
    that order, interleaved, then main finishes. -/
def sched1 : List Nat := [0, 0, 0, 0, 0, 0, 0, 3, 1, 3, 1, 0, 3, 1, 0, 0, 0, 0]

example : Complete q1 sched1 := by decide +kernel
-- ASYNC columns hold `f0 (c+1)`; the ONCE column of both rows holds `f1 (args of call 1)` = 12
example : ((run q1 init sched1).col 0, (run q1 init sched1).col 1, (run q1 init sched1).col 2,
    (run q1 init sched1).col 3) = (.val (some 1), .val (some 12), .val (some 3), .val (some 12)) := by
  decide +kernel
example : (run q1 init sched1).onceCount 1 = 1 ∧ (run q1 init sched1).invoked 1 = 1 ∧
    (run q1 init sched1).invoked 3 = 0 := by decide +kernel
-- `wg.Wait()` really blocks: after all calls are evaluated and before any goroutine finished,
-- the main goroutine is disabled and the counter is 2
example : (step q1 (run q1 init [0, 0, 0, 0, 0, 0]) 0).isNone = true ∧
    (run q1 init [0, 0, 0, 0, 0, 0]).wg = 2 := by decide +kernel
-- a different interleaving (goroutines run as soon as they are started) gives the same columns
def sched1' : List Nat := [0, 0, 1, 1, 1, 0, 0, 0, 3, 3, 3, 0, 0, 0, 0, 0]
example : Complete q1 sched1' := by decide +kernel
example : (run q1 init sched1').col 0 = (run q1 init sched1).col 0 ∧
    (run q1 init sched1').col 2 = (run q1 init sched1).col 2 := by decide +kernel
-- the unqualified query, sequentially
example : Complete q1.unqualified [0, 0, 0, 0, 0, 0] := by decide +kernel
example : (run q1.unqualified init [0, 0, 0, 0, 0, 0]).col 2 = .val (some 3) := by decide +kernel

/-- `SELECT SPINASYNC f2(x), SPIN f0(x) FROM t` over two rows. -/
def q2 : Query Nat Nat := { q1 with items := [⟨.spinasync, 2⟩, ⟨.spin, 0⟩] }

/-- The SPIN goroutine of call 3 never runs before `Exec` returns; that of call 1 does. -/
def sched2 : List Nat := [0, 0, 0, 1, 2, 0, 0, 0, 3, 3, 1, 2, 0, 0]

example : Complete q2 sched2 := by decide +kernel
example : ((run q2 init sched2).col 0, (run q2 init sched2).col 1, (run q2 init sched2).col 2,
    (run q2 init sched2).col 3) = (.absent, .absent, .absent, .absent) := by decide +kernel
example : ((run q2 init sched2).invoked 0, (run q2 init sched2).invoked 2,
    (run q2 init sched2).task 0, (run q2 init sched2).task 2) = (1, 1, .done, .done) := by decide +kernel
example : (run q2 init sched2).task 3 = .pending ∧ (run q2 init sched2).invoked 3 = 0 := by decide +kernel

/-- An immediate function (`7`) qualified with ASYNC in the second item. -/
def q3 : Query Nat Nat := { q1 with items := [⟨.plain, 0⟩, ⟨.async, 7⟩] }

example : (run q3 init [0, 0, 0, 0]).phase = .failed ∧ (run q3 init [0, 0, 0, 0]).invoked 1 = 0 ∧
    (run q3 init [0, 0, 0, 0]).wg = 0 := by decide +kernel
example : q3.imm (q3.name 1) = true ∧ q3.strat 1 = .async ∧ 1 < q3.total := by decide +kernel

-- the per-call event order of concrete runs (two different interleavings)
example : proj 0 (trace q1 init sched1) = canonAsync ∧ proj 2 (trace q1 init sched1) = canonAsync ∧
    proj 2 (trace q1 init sched1') = canonAsync := by decide +kernel
example : proj 0 (trace q2 init sched2) = canonSpinAsync := by decide +kernel
-- hypotheses of the general theorems hold on the instances
example : 0 < q1.total ∧ q1.strat 0 = .async ∧ q1.strat 1 = .once ∧ q1.strat 2 = .async := by decide +kernel
example : q2.strat 0 = .spinasync ∧ q2.strat 1 = .spin := by decide +kernel

end Genql.C14

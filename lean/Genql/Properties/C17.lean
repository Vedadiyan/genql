/-
  Genql.Properties.C17 — the two query-text preprocessors rewrite syntax only.

  C17: "PostgresEscapingDialect only changes how identifiers are quoted: a query written with
  double-quoted identifiers under that option returns what the same query with backtick identifiers
  returns without it, and the contents of single-quoted string literals and backtick identifiers
  (any double quotes, brackets, escapes inside them) reach the engine untouched.  IdiomaticArrays
  makes `[e1, ...]` (nested too) a synonym of `ARRAY(e1, ...)` and leaves brackets inside string
  literals and quoted identifiers alone."

  Model: Genql/Model/Scan.lean (`dq2bt` = `DoubleQuotesToBackTick`, `findBrackets` =
  `FindArrayIndex`, `fixArr` = `FixIdiomaticArray`, byte-level).  With the option set, the text
  handed to the SQL parser is the preprocessor's output, so "returns what the other spelling returns"
  is: the output text IS the other spelling.

  The grammars the theorems quantify over are defined with the lemmas about them: `Tok`, `render`,
  `conv` in Proofs/ScanDq, `kinds`, `depthAfter`, `rewriteK`, `opens`, `closes` in Proofs/ScanArr,
  `Forest` in Proofs/ScanForest.
-/
import Genql.Model.Scan
import Genql.Proofs.ScanDq
import Genql.Proofs.ScanArr
import Genql.Proofs.ScanForest
import Genql.Proofs.Loops

namespace Genql.C17
open Genql.Scan

/-- ASCII text as bytes (for the examples; reduces in the kernel) -/
def asc (s : String) : List UInt8 := s.toList.map (fun c => c.toNat.toUInt8)

/-! ## PostgresEscapingDialect — `DoubleQuotesToBackTick` -/

/-- a query in the Postgres spelling: identifiers in double quotes -/
abbrev renderDQ (q : List Tok) : List UInt8 := render true q
/-- the same query in the engine's native spelling: identifiers in backticks -/
abbrev renderBT (q : List Tok) : List UInt8 := render false q

/-- **Spelling.**  For every token list `q` — raw text free of quote characters; single-quoted
    literals with arbitrary content, `'` written `''` or `\'`, backslash escapes being two-byte
    units; backtick identifiers free of backticks; double-quoted identifiers whose content is free of
    `"`, `` ` `` and `\` — the preprocessor succeeds on the double-quote spelling and yields exactly
    the backtick spelling. -/
theorem dq2bt_spelling (q : List Tok) (hq : q.all Tok.ok = true) :
    dq2bt (renderDQ q) = some (renderBT q) := by
  simp [dq2bt, dq2btE, toOption, scan_render q hq]

/-- **Segmentation / literals are preserved.**  The output is the concatenation of the per-token
    conversions, and the conversion of anything that is not a double-quoted identifier — raw text,
    a single-quoted literal with any double quotes, brackets or escapes inside, a backtick
    identifier — is the token's own bytes. -/
theorem dq2bt_preserves_literals (q : List Tok) (hq : q.all Tok.ok = true) :
    dq2bt (q.flatMap (Tok.render true)) = some (q.flatMap conv) ∧
    ∀ t ∈ q, t.isIdent = false → conv t = t.render true := by
  refine ⟨?_, fun t _ => conv_of_not_ident t⟩
  rw [funext conv_eq]
  exact dq2bt_spelling q hq

/-- **Totality.**  On every byte string the function either returns a string or returns its
    `index out of range` error; it never panics (and the model never declines).  The error arises
    only from a backslash that is the last byte inside `'…` or `"…`. -/
theorem dq2bt_total (s : List UInt8) :
    (∃ out, dq2btE s = .ok out) ∨ dq2btE s = .error .error := by
  cases h : dq2btE s with
  | ok out => exact Or.inl ⟨out, rfl⟩
  | error e => rw [scan_error .raw s e h]; exact Or.inr rfl

theorem dq2bt_never_panics (s : List UInt8) : dq2btE s ≠ .error .panic := by
  rcases dq2bt_total s with ⟨out, h⟩ | h <;> simp [h]

/-- A query without `.ident` tokens is left alone: turning the option on is harmless for queries
    already written with backticks (`renderBT` spells an `.ident` like a `.btid`, so `hn` excludes
    no text). -/
theorem dq2bt_id_of_no_ident (q : List Tok) (hq : q.all Tok.ok = true)
    (hn : ∀ t ∈ q, t.isIdent = false) : dq2bt (renderBT q) = some (renderBT q) := by
  have h : renderDQ q = renderBT q :=
    congrArg List.flatten (List.map_congr_left fun t ht =>
      (conv_of_not_ident t (hn t ht)).symm.trans (conv_eq t))
  exact h ▸ dq2bt_spelling q hq

/-- ``SELECT "a b", 'x"y[\'', `c"d` FROM t`` — hypotheses of the theorems are satisfiable -/
def exQ : List Tok :=
  [.raw (asc "SELECT "), .ident (asc "a b"), .raw (asc ", "),
   .sqlit [.ch 120, .ch bDq, .ch 121, .ch bLb, .esc bSq, .dbl], .raw (asc ", "),
   .btid (asc "c\"d"), .raw (asc " FROM t")]

example : exQ.all Tok.ok = true := by decide +kernel
example : renderDQ exQ = asc "SELECT \"a b\", 'x\"y[\\'''', `c\"d` FROM t" := by decide +kernel
example : renderBT exQ = asc "SELECT `a b`, 'x\"y[\\'''', `c\"d` FROM t" := by decide +kernel
example : dq2bt (renderDQ exQ) = some (renderBT exQ) := dq2bt_spelling exQ (by decide +kernel)
example : dq2bt (renderBT (exQ.filter (fun t => !t.isIdent)))
    = some (renderBT (exQ.filter (fun t => !t.isIdent))) :=
  dq2bt_id_of_no_ident _ (by decide +kernel) (by decide +kernel)

example : dq2bt (asc "SELECT \"a b\", 'x\"y', [1,[2,3]]")
    = some (asc "SELECT `a b`, 'x\"y', [1,[2,3]]") := by decide +kernel
/-- `\"` inside a double-quoted identifier becomes a bare `"` -/
example : dq2bt (asc "\"a\\\"b\"") = some (asc "`a\"b`") := by decide +kernel
/-- a backslash as last byte inside a quote: the Go function returns its error -/
example : dq2btE (asc "'abc\\") = .error .error := by decide +kernel
example : dq2btE (asc "\"abc\\") = .error .error := by decide +kernel
/-- …but not outside quotes, and an unterminated quote is not an error -/
example : dq2bt (asc "abc\\") = some (asc "abc\\") := by decide +kernel
example : dq2bt (asc "\"abc") = some (asc "`abc") := by decide +kernel

/-! ## IdiomaticArrays — `FindArrayIndex` / `FixIdiomaticArray` -/

/-- the lexer's verdict on every byte of `s`: active `[`, active `]`, or anything else (inside a
    quote, right after a backslash, or not a bracket) -/
abbrev kindsOf (s : List UInt8) : List Kind := kinds false none s

/-- the active brackets of `s` are balanced (depth never negative, zero at the end) -/
def Balanced (s : List UInt8) : Prop := depthAfter 0 (kindsOf s) = some 0

instance (s : List UInt8) : Decidable (Balanced s) := by unfold Balanced; infer_instance

/-- every active `[` replaced by `ARRAY(`, every active `]` by `)`, nothing else changed -/
def rewrite (s : List UInt8) : List UInt8 := rewriteK (kindsOf s) s

/-- `Scan.fixArrE_eq`, restated with `Balanced` / `rewrite`. -/
theorem fixArrE_eq (s : List UInt8) :
    fixArrE s = if Balanced s then .ok (rewrite s) else .error .error :=
  Scan.fixArrE_eq s

/-- **Spelling (all byte strings).**  Whenever the brackets outside quoted segments are balanced,
    every `[` is replaced by `ARRAY(`, every `]` by `)`, and nothing else changes.  (The FIFO pairing
    of `FindArrayIndex` — the k-th `[` with the k-th `]` — is harmless: see `findBrackets_fifo`;
    the k-th rewrite happens at offset exactly `5k`: `fixLoop_cons`, `fixLoop_balanced`.) -/
theorem fixArr_spelling (s : List UInt8) (h : Balanced s) : fixArr s = some (rewrite s) := by
  simp [fixArr, fixArrE_eq, h, toOption]

/-- the pairs computed by `FindArrayIndex` on a balanced string: k-th `[` with k-th `]` -/
theorem findBrackets_fifo (s : List UInt8) (h : Balanced s) :
    findBrackets s = some ((opens 0 (kindsOf s)).zip (closes 0 (kindsOf s))) := by
  unfold Balanced at h
  simp [findBrackets, findBracketsE_eq, h, toOption]

/-- the output is 5 bytes longer per array -/
theorem rewrite_length (s : List UInt8) :
    (rewrite s).length = s.length + 5 * (opens 0 (kindsOf s)).length :=
  rewriteK_length _ s 0 (kinds_length ..)

/-- **Spelling (grammar form).**  For every bracket forest `t` — leaves are bytes outside quotes
    (no quote, backslash or bracket), `\d` pairs, and quoted segments `'…'`, `"…"`, `` `…` `` whose
    content is arbitrary (brackets, other quotes) except that the segment's own quote and backslashes
    occur only in `\d` pairs — `[e1, [e2, …]]` becomes `ARRAY(e1, ARRAY(e2, …))` with every leaf
    (in particular every bracket inside a quoted segment) copied unchanged. -/
theorem fixArr_spelling_forest (t : Forest) (ht : t.ok = true) :
    fixArr (t.render false) = some (t.render true) := by
  have hk : kindsOf (t.render false) = t.kinds := by
    simpa only [List.append_nil, kinds] using kinds_forest t [] ht
  have hb : Balanced (t.render false) := by
    simpa only [Balanced, hk, List.append_nil, depthAfter] using depthAfter_forest t 0 []
  rw [fixArr_spelling _ hb, rewrite, hk]
  simpa only [List.append_nil, rewriteK] using congrArg some (rewriteK_forest t [] [])

/-- **Unbalanced brackets give an error** (never a panic): an unmatched `]` … -/
theorem fixArr_unmatched_close_error (s : List UInt8) (h : depthAfter 0 (kindsOf s) = none) :
    fixArrE s = .error .error := by
  simp [fixArrE_eq, Balanced, h]

/-- … or an unclosed `[` (the pair keeps end index 0 and is caught by the `index[1] <= index[0]`
    test). -/
theorem fixArr_unclosed_open_error (s : List UInt8) (m : Nat)
    (h : depthAfter 0 (kindsOf s) = some (m + 1)) : fixArrE s = .error .error := by
  simp [fixArrE_eq, Balanced, h]

theorem fixArr_unbalanced_error (s : List UInt8) (h : ¬ Balanced s) : fixArrE s = .error .error := by
  simp [fixArrE_eq, h]

/-- **Totality**: no slice or index expression of `FixIdiomaticArray`/`FindArrayIndex` is ever out of
    range, on any input. -/
theorem fixArr_total (s : List UInt8) : fixArrE s ≠ .error .panic := by
  rw [fixArrE_eq]; split <;> simp

theorem findBrackets_total (s : List UInt8) : findBracketsE s ≠ .error .panic := by
  rw [findBracketsE_eq]; split <;> simp

/-- `[1,'[',[`]`,\[]] x` -/
def exT : Forest :=
  .arr (.leaf (.raw 49) (.leaf (.raw 44) (.leaf (.quoted bSq [.ch bLb]) (.leaf (.raw 44)
    (.arr (.leaf (.quoted bBt [.ch bRb]) (.leaf (.raw 44) (.leaf (.esc bLb) .nil))) .nil)))))
   (.leaf (.raw 32) (.leaf (.raw 120) .nil))

example : exT.ok = true := by decide +kernel
example : exT.render false = asc "[1,'[',[`]`,\\[]] x" := by decide +kernel
example : exT.render true = asc "ARRAY(1,'[',ARRAY(`]`,\\[)) x" := by decide +kernel
example : fixArr (exT.render false) = some (exT.render true) := fixArr_spelling_forest exT (by decide +kernel)

example : Balanced (asc "SELECT \"a b\", 'x\"y', [1,[2,3]]") := by decide +kernel
example : fixArr (asc "SELECT \"a b\", 'x\"y', [1,[2,3]]")
    = some (asc "SELECT \"a b\", 'x\"y', ARRAY(1,ARRAY(2,3))") := by decide +kernel
example : findBrackets (asc "[[][]]") = some [(0, 2), (1, 4), (3, 5)] := by decide +kernel
example : fixArr (asc "[[][]]") = some (asc "ARRAY(ARRAY()ARRAY())") := by decide +kernel
example : fixArr (asc "'[' \"]\" `[[` [1]") = some (asc "'[' \"]\" `[[` ARRAY(1)") := by decide +kernel
example : fixArrE (asc "SELECT [1,[2,3]") = .error .error := by decide +kernel
example : fixArrE (asc "SELECT [1,2]]") = .error .error := by decide +kernel
example : fixArrE (asc "][") = .error .error := by decide +kernel
example : ¬ Balanced (asc "][") := by decide +kernel
/-- hypotheses of `fixArr_unmatched_close_error` / `fixArr_unclosed_open_error` are satisfiable -/
example : depthAfter 0 (kindsOf (asc "f(a]) '['")) = none := by decide +kernel
example : depthAfter 0 (kindsOf (asc "[[1] ']'")) = some (0 + 1) := by decide +kernel
/-- an unterminated quote hides everything after it (no error, nothing rewritten) -/
example : fixArr (asc "[1] '[2]") = some (asc "ARRAY(1) '[2]") := by decide +kernel
/-- Behaviour worth knowing (lexer disagreement, outside the grammar of `fixArr_spelling_forest`):
    `FindArrayIndex` lets a backslash hide the next byte everywhere, also inside backtick
    identifiers and outside quotes, whereas `DoubleQuotesToBackTick` (and the SQL tokenizer) end a
    backtick identifier at the next backtick.  After an identifier ending in `\` the rest of the
    query is therefore treated as quoted and its arrays are NOT rewritten. -/
example : fixArr (asc "`a\\`,[1]") = some (asc "`a\\`,[1]") := by decide +kernel
example : dq2bt (asc "`a\\`,\"b\"") = some (asc "`a\\`,`b`") := by decide +kernel

/-! ### the two rewrites together -/

/-- no option: the text reaches the parser untouched -/
theorem applyDialect_off (s : List UInt8) : applyDialect false false s = .ok s := rfl

/-- one option: exactly that rewrite -/
theorem applyDialect_pg_only (s : List UInt8) : applyDialect true false s = dq2btE s := by
  unfold applyDialect
  cases dq2btE s <;> rfl

theorem applyDialect_arr_only (s : List UInt8) : applyDialect false true s = fixArrE s := rfl

/-- both options: the array rewrite runs on the OUTPUT of the quote rewrite (so a double-quoted identifier is already a
    backtick identifier when the brackets are looked for), and a failure of either is the failure of `New` -/
theorem applyDialect_both (s : List UInt8) : applyDialect true true s = (dq2btE s >>= fixArrE) := rfl

/-- both options on a query in the Postgres spelling: when the native spelling has balanced active brackets, the parser
    receives the native spelling with every array literal rewritten -/
theorem applyDialect_both_spelling (q : List Tok) (hq : q.all Tok.ok = true) (hb : Balanced (renderBT q)) :
    applyDialect true true (renderDQ q) = .ok (rewrite (renderBT q)) := by
  rw [applyDialect_both, dq2btE, scan_render q hq]
  exact (fixArrE_eq _).trans (if_pos hb)

/-- `SELECT "a" FROM t WHERE "a" IN [1, 2]` under both options -/
example : toOption (applyDialect true true (asc "SELECT \"a\" FROM t WHERE \"a\" IN [1, 2]"))
    = some (asc "SELECT `a` FROM t WHERE `a` IN ARRAY(1, 2)") := by decide +kernel

end Genql.C17

/-
  C02 / C09 bridge: columns and tables written as path-selector texts (`Expr.selc`, `From.tableSel`).
  The query model evaluates them with the selector model of C09; on texts that are plain dotted key
  paths this is exactly the column reading the rest of the query model uses (`Expr.col`,
  `From.table`), so the two spellings of a column denote the same value.
-/
import Genql.Properties.C09
import Genql.Proofs.Eval
namespace Genql.C02
open Genql Genql.Sel
variable {N : Type} [Num N]

/-- a selector-text column evaluates, on the current row only, to what `ExecReader` returns for it -/
theorem selc_eval (env : Env N) (ctx : Ctx N) (hh : ctx.hard = false) (cur : Row N) (t : String) :
    evalExpr env ctx cur (.selc t) = (do let v ← Sel.execReader (.obj cur) t; pure (IVal.v v)) := by
  rw [evalExpr_selc, hh]; rfl

/-- a failing selector fails the expression (no default, no NULL) -/
theorem selc_error (env : Env N) (ctx : Ctx N) (hh : ctx.hard = false) (cur : Row N) (t : String) (e : Err)
    (h : Sel.execReader (.obj cur) t = .error e) : evalExpr env ctx cur (.selc t) = .error e := by
  rw [selc_eval env ctx hh, h]; rfl

/-- **the two spellings of a key path agree**: a column written as the selector text `k1.k2…` has the
    value of the column reference with path `[k1, k2, …]` -/
theorem selc_keys_eq_col (env : Env N) (ctx : Ctx N) (hh : ctx.hard = false) (cur : Row N) (ks : List String)
    (h : ∀ k ∈ ks, k.toList ≠ [] ∧ ∀ c ∈ k.toList, isWord c = true) :
    (do let x ← evalExpr env ctx cur (.selc (".".intercalate ks)); valueOf cur x) =
    (do let x ← evalExpr env ctx cur (.col ks); valueOf cur x) := by
  rw [selc_eval env ctx hh, Genql.C09.exec_keys ks h, evalExpr_col, hh]
  cases hr : readPath ks (Val.obj cur) with
  | error e => simp [valueOf, hr, bind, Except.bind]
  | ok v => simp [valueOf, hr, bind, Except.bind, pure, Except.pure]

/-- FROM: a table named by the selector text of a key path is the table named by that path
    (with no CTE names in scope, and the path is not `dual`) -/
theorem tableSel_keys_eq_table (env : Env N) (data : Row N) (ks : List String) (alias ident : String)
    (h : ∀ k ∈ ks, k.toList ≠ [] ∧ ∀ c ∈ k.toList, isWord c = true) (hne : ks ≠ []) (hd : ks ≠ ["dual"]) :
    evalFrom env data { bad := [], fwd := [] } (.tableSel (".".intercalate ks) alias ident) =
    evalFrom env data { bad := [], fwd := [] } (.table ks alias ident) := by
  have hk := Genql.C09.exec_keys ks h (Val.obj data)
  cases ks with
  | nil => exact absurd rfl hne
  | cons k0 rest =>
    unfold evalFrom
    simp only [List.append_nil, List.any_nil, Bool.false_eq_true, if_false, hk, List.not_mem_nil,
      bind, Except.bind]
    cases hr : readPath (k0 :: rest) (Val.obj data) with
    | error e => rfl
    | ok v =>
      cases v with
      | null => exact (if_neg hd).symm
      | _ => rfl

-- the right-hand side of `selc_keys_eq_col` evaluated: `a.b` over `{a: {b: 7}}`
def exEnv : Env Int := { dfx := .none, constants := none, failOn := none }
def exCtx : Ctx Int := { data := [], hard := false, grouped := false, matched := [], fromLen := 0 }
def exRow : Row Int := [("a", .obj [("b", .num 7)])]
example : (do let x ← evalExpr exEnv exCtx exRow (.col ["a", "b"]); valueOf exRow x) = .ok (.num 7) := by decide

end Genql.C02

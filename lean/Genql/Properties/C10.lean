/-
  Property C10 — no query, option set or input can crash or hang the host process.
  (Proved part: the modelled components are total and panic-free; recursion through CTEs terminates.
   The regenerated panic-site / goroutine / recover obligations are in Genql/Obligations/C10.lean.)
-/
import Genql.Proofs.Loops
import Genql.Proofs.ValEq
import Genql.Properties.C09
import Genql.Properties.C16
import Genql.Properties.C17
import Genql.Model.Eval
import Genql.Inst.IntNum
namespace Genql.C10
open Genql
variable {N : Type} [Num N]

/-- `(*Query).Exec()` as the model sees it: an array result as is, anything else wrapped; the API
    boundary (`defer recover` in New / Exec / exec / Sort) turns a panic into an error -/
def apiResult (r : R (Val N)) : R (Val N) :=
  match r with
  | .ok (.arr xs) => .ok (.arr xs)
  | .ok v => .ok (.arr [v])
  | .error .panic => .error .error
  | .error e => .error e

omit [Num N] in
theorem apiResult_ne_panic (r : R (Val N)) : apiResult r ≠ .error .panic := by
  unfold apiResult
  split <;> simp_all

/-- whatever the query, document and scope: the API returns rows or an error, never a panic — by the definition of
    `apiResult` alone, which stands for the recover boundaries (`apiResult_ne_panic`, of any result); that they exist in
    the Go code is obligation `recover_boundaries`.  The model evaluator itself is a total function — Lean accepted it
    by structural recursion — so it cannot loop. -/
theorem api_never_panics (env : Env N) (data : Row N) (q : Query N) :
    apiResult (execQuery env data {} q) ≠ .error .panic :=
  apiResult_ne_panic _

/-- LIMIT/OFFSET never fail and never index outside the rows -/
theorem window_total {α : Type} (rs : List α) (offset limit : Option Nat) :
    ∃ out, window rs offset limit = .ok out := ⟨_, Genql.C05.window_exact rs offset limit⟩

/-- a path selector, ANY string, on any document: an error at worst -/
theorem selector_total (doc : Val N) (s : String) : Sel.execReader doc s ≠ .error .panic :=
  Genql.C09.sel_total_no_panic doc s

theorem dq2bt_total (s : List UInt8) : Scan.dq2btE s ≠ .error .panic := Genql.C17.dq2bt_never_panics s

theorem fixArr_total (s : List UInt8) : Scan.fixArrE s ≠ .error .panic := Genql.C17.fixArr_total s

theorem sanitize_total (t : List Char) (args : List San.Arg) : San.sanitize t args ≠ .error .panic :=
  (Genql.C16.sanitize_no_panic t args).1

/-- a CTE that names itself: evaluation terminates (in the model with the out-of-model marker for the
    forward reference; the Go code reports "references itself") -/
theorem self_cte_terminates :
    execQuery (N := Int) ⟨.none, none, none⟩ [("t", .arr [])] {}
      (.select [.mk "c" (.select [] false [.star] (.table ["c"] "" "c") (.bool true) [] (.bool true) [] none none)]
        false [.star] (.table ["c"] "" "c") (.bool true) [] (.bool true) [] none none) = .error .oom := by
  decide +kernel

theorem mutual_cte_terminates :
    execQuery (N := Int) ⟨.none, none, none⟩ [("t", .arr [])] {}
      (.select [.mk "c" (.select [] false [.star] (.table ["d"] "" "d") (.bool true) [] (.bool true) [] none none),
                .mk "d" (.select [] false [.star] (.table ["c"] "" "c") (.bool true) [] (.bool true) [] none none)]
        false [.star] (.table ["c"] "" "c") (.bool true) [] (.bool true) [] none none) = .error .oom := by
  decide +kernel

/-- an index beyond the array in a FROM path is an error (D18/D20) -/
theorem from_index_out_of_range_is_error (xs : List (Val N)) (i : Nat) (h : xs.length ≤ i) (rest : List Sel.Step) :
    Sel.evalSteps (Sel.Step.dims [.idx i] :: rest) (.arr xs) = .error .error :=
  (Genql.C09.index_out_of_range_error i [] rest xs h).1

end Genql.C10

/-
  Property C02, "correctly computed columns": what the value-producing expression forms compute, stated
  against their SQL reading — CASE picks the first WHEN whose condition is true (else ELSE, else NULL),
  arithmetic on two numbers is the operator applied to them and NULL when either operand is NULL, a
  tuple is the array of its operands' values.
-/
import Genql.Properties.C02
import Genql.Proofs.ValEq
namespace Genql.C02
open Genql
variable {N : Type} [Num N]

def whenCond : When N → Expr N | .mk c _ => c
def whenVal : When N → Expr N | .mk _ v => v

/-- **CASE**: when every WHEN condition evaluates to a boolean (`cond w`), the loop returns the value of the
    FIRST arm whose condition is true and evaluates no later arm; `none` when no condition is true -/
theorem evalWhens_first_true (env : Env N) (ctx : Ctx N) (cur : Row N) (whens : List (When N)) (cond : When N → Bool)
    (hc : ∀ w ∈ whens, evalExpr env ctx cur (whenCond w) = .ok (.v (.bool (cond w)))) :
    evalWhens env ctx cur whens =
      (match whens.find? cond with
       | some w => (evalExpr env ctx cur (whenVal w)).map some
       | none => .ok none) := by
  induction whens with
  | nil => rfl
  | cons w rest ih =>
    obtain ⟨c, v⟩ := w
    rw [evalWhens_cons, show evalExpr env ctx cur c = _ from hc (.mk c v) (by simp), List.find?_cons]
    cases cond (.mk c v)
    · exact ih fun w hw => hc w (by simp [hw])
    · rfl

/-- `CASE WHEN … END` as a whole: the first true arm's value, else the ELSE expression (`.null` when absent) -/
theorem case_spec (env : Env N) (ctx : Ctx N) (cur : Row N) (whens : List (When N)) (els : Expr N) (cond : When N → Bool)
    (hc : ∀ w ∈ whens, evalExpr env ctx cur (whenCond w) = .ok (.v (.bool (cond w)))) :
    evalExpr env ctx cur (.case whens els) =
      (match whens.find? cond with
       | some w => evalExpr env ctx cur (whenVal w)
       | none => evalExpr env ctx cur els) := by
  rw [evalExpr_case, evalWhens_first_true env ctx cur whens cond hc]
  cases whens.find? cond with
  | none => rfl
  | some w => dsimp only; cases evalExpr env ctx cur (whenVal w) <;> rfl

/-- a CASE without ELSE whose conditions are all false is NULL -/
theorem case_no_match_null (env : Env N) (ctx : Ctx N) (cur : Row N) (whens : List (When N))
    (hc : ∀ w ∈ whens, evalExpr env ctx cur (whenCond w) = .ok (.v (.bool false))) :
    evalExpr env ctx cur (.case whens .null) = .ok (.v .null) := by
  rw [case_spec env ctx cur whens .null (fun _ => false) hc]
  rw [List.find?_eq_none.mpr (by simp)]
  rfl

/-- **arithmetic on two numbers** is the operator's arithmetic on them (`binArith`: IEEE / int64 semantics of the Go
    expression of that operator — see `Obligations/C01.binary_cases` for the text of each case) -/
theorem bin_num (env : Env N) (ctx : Ctx N) (cur : Row N) (op : BinOp) (a b : Expr N) (ia ib : IVal N) (x y : N)
    (ha : evalExpr env ctx cur a = .ok ia) (hva : valueOf cur ia = .ok (.num x))
    (hb : evalExpr env ctx cur b = .ok ib) (hvb : valueOf cur ib = .ok (.num y)) :
    evalExpr env ctx cur (.bin op a b) = (binArith op x y).map fun z => .fptr (some z) := by
  rw [evalExpr_bin, ha, C19.ok_bind, hva, C19.ok_bind, hb, C19.ok_bind, hvb]
  show binArith op x y >>= _ = _
  cases binArith op x y <;> rfl

/-- the four field operations never fail on numbers -/
theorem bin_field_total (op : BinOp) (hop : op = .plus ∨ op = .minus ∨ op = .mult ∨ op = .div) (x y : N) :
    ∃ z, binArith op x y = .ok z := by
  rcases hop with rfl | rfl | rfl | rfl <;> exact ⟨_, rfl⟩

/-- a NULL right operand (left a number) gives NULL as well — with `binop_null` (NULL left operand): arithmetic is
    NULL-strict in both operands -/
theorem bin_null_right (env : Env N) (ctx : Ctx N) (cur : Row N) (op : BinOp) (a b : Expr N) (ia ib : IVal N) (x : N)
    (ha : evalExpr env ctx cur a = .ok ia) (hva : valueOf cur ia = .ok (.num x))
    (hb : evalExpr env ctx cur b = .ok ib) (hvb : valueOf cur ib = .ok .null) :
    evalExpr env ctx cur (.bin op a b) = .ok (.fptr none) := by
  rw [evalExpr_bin, ha, C19.ok_bind, hva, C19.ok_bind, hb, C19.ok_bind, hvb]; rfl

/-- a non-numeric, non-NULL operand is an error, not a silently coerced value -/
theorem bin_type_error (env : Env N) (ctx : Ctx N) (cur : Row N) (op : BinOp) (a b : Expr N) (ia : IVal N) (v : Val N)
    (ha : evalExpr env ctx cur a = .ok ia) (hva : valueOf cur ia = .ok v)
    (hv : v ≠ .null) (hn : ∀ x, v ≠ .num x) :
    evalExpr env ctx cur (.bin op a b) = .error .error := by
  rw [evalExpr_bin, ha, C19.ok_bind, hva]
  cases v with
  | null => exact absurd rfl hv
  | num x => exact absurd rfl (hn x)
  | _ => rfl

/-- **a value tuple** is the array of its operands' values, in order -/
theorem tuple_values (env : Env N) (ctx : Ctx N) (cur : Row N) (xs : List (Expr N)) (vs : List (Val N))
    (h : evalArgs env ctx cur xs = .ok vs) : evalExpr env ctx cur (.tuple xs) = .ok (.v (.arr vs)) := by
  rw [evalExpr_tuple, h]; rfl

theorem evalArgs_length (env : Env N) (ctx : Ctx N) (cur : Row N) (xs : List (Expr N)) (vs : List (Val N))
    (h : evalArgs env ctx cur xs = .ok vs) : vs.length = xs.length :=
  mapE_ok_length (evalArgs_eq_mapE env ctx cur xs ▸ h)

/-- `CASE WHEN a > 5 THEN 'big' WHEN a > 1 THEN 'mid' ELSE 'small' END` on a = 3 -/
example : (evalExpr (N := Int) { dfx := .none, constants := none } ⟨[], false, false, [], 0⟩ [("a", .num 3)]
    (.case [.mk (.cmp .gt (.col ["a"]) (.num 5)) (.str "big"), .mk (.cmp .gt (.col ["a"]) (.num 1)) (.str "mid")] (.str "small"))
    >>= valueOf [("a", .num 3)]) = .ok (.str "mid") := by decide +kernel

end Genql.C02

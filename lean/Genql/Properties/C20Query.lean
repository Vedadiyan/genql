/-
  Property C20 at the level of a query: the select list evaluated for every row in source order, item by item from
  left to right, with the variable map threaded through (`Model/VarsQuery`), behaves as the store of `Model/Vars`
  (`Vars.run`) on the row-major, left-to-right history of SETVAR / GETVAR calls: the caller's map after the query is the
  store after that history, and the values the GETVAR columns hold are what `Vars.run` returned, in order.
  (`vars_refine_registers` takes `Vars.run` to the register machine.)
-/
import Genql.Model.VarsQuery
import Genql.Properties.C20
import Genql.Proofs.ValEq
import Genql.Proofs.Loops
import Genql.Inst.IntNum
namespace Genql.C20
open Genql Genql.Vars Genql.VarsQ
variable {N : Type} [Num N]

/-- the outputs of the register machine that are columns (`SETVAR` contributes none) -/
def columnsOf {V : Type} (outs : List (Option (Option V))) : List (Option V) := outs.filterMap id

theorem columnsOf_append {V : Type} (a b : List (Option (Option V))) : columnsOf (a ++ b) = columnsOf a ++ columnsOf b :=
  List.filterMap_append

/-- `historyOf` on `r :: rs`, by definition: the calls of row `r`, then the history of `rs` from the store they leave -/
theorem history_row_major (env : Env N) (ctx : Ctx N) (sel : List (SelItem N)) (r : Row N) (rs : List (Row N))
    (st : Store N) (a b : List (VOp (Val N))) (ha : rowOps env ctx r sel st = .ok a)
    (hb : historyOf env ctx sel rs (run st a).1 = .ok b) :
    historyOf env ctx sel (r :: rs) st = .ok (a ++ b) := by
  simp only [historyOf, ha, C19.ok_bind, hb]; rfl

theorem rowOps_cons {env : Env N} {ctx : Ctx N} {cur : Row N} {it : SelItem N} {rest : List (SelItem N)} {st : Store N}
    {a b : List (VOp (Val N))} (ha : itemOps env ctx cur st it = .ok a)
    (hb : rowOps env ctx cur rest (run st a).1 = .ok b) : rowOps env ctx cur (it :: rest) st = .ok (a ++ b) := by
  simp only [rowOps, ha, C19.ok_bind, hb]; rfl

/-- **one row**: the select list, evaluated left to right, leaves the map as `Vars.run` leaves it on the row's history,
    and GETVAR returned exactly what `Vars.run` returned -/
theorem selVars_refines (env : Env N) (ctx : Ctx N) (cur : Row N) (sel : List (SelItem N)) (st : Store N) (acc : Row N)
    (out : Row N) (st' : Store N) (reads : List (Option (Val N)))
    (h : selVars env ctx cur sel st acc = .ok (out, st', reads)) :
    ∃ ops, rowOps env ctx cur sel st = .ok ops ∧ st' = (run st ops).1 ∧ reads = columnsOf (run st ops).2 := by
  revert h
  fun_induction selVars env ctx cur sel st acc generalizing reads with
  | case1 st acc => intro h; cases h; exact ⟨[], rfl, rfl, rfl⟩
  | case2 it rest st acc k a hc ih =>
    intro h
    obtain ⟨key, hk, h⟩ := bind_eq_ok h
    obtain ⟨v, hv, h⟩ := bind_eq_ok h
    obtain ⟨ops, hops, hst, hr⟩ := ih key v _ h
    exact ⟨_, rowOps_cons (a := [.set key v]) (by simp only [itemOps, hc, hk, hv]; rfl) hops, hst, hr⟩
  | case3 it rest st acc k col hc ih =>
    intro h
    obtain ⟨key, hk, h⟩ := bind_eq_ok h
    obtain ⟨⟨o, s2, rd⟩, hrest, h⟩ := bind_eq_ok h
    cases h
    obtain ⟨ops, hops, hst, hr⟩ := ih key _ hrest
    exact ⟨_, rowOps_cons (a := [.get key]) (by simp only [itemOps, hc, hk]; rfl) hops, hst, congrArg (_ :: ·) hr⟩
  | case4 it rest st acc it' hc ih =>
    intro h
    obtain ⟨acc', _, h⟩ := bind_eq_ok h
    obtain ⟨ops, hops, hst, hr⟩ := ih acc' _ h
    exact ⟨_, rowOps_cons (a := []) (by simp only [itemOps, hc]; rfl) hops, hst, hr⟩

/-- **the whole query**: rows in source order, one output row for each.  The map the caller gets back is `Vars.run`'s
    store after the row-major, left-to-right history; the GETVAR values are its outputs in that order — so what
    `vars_refine_registers`, `final_store`, `never_set_is_null` say of `Vars.run` ("GETVAR returns the value most
    recently stored by SETVAR for that key in evaluation order, or NULL") holds of the query. -/
theorem query_vars_refine (env : Env N) (ctx : Ctx N) (sel : List (SelItem N)) (rows : List (Row N)) (st : Store N)
    (outs : List (Val N)) (st' : Store N) (reads : List (Option (Val N)))
    (h : rowsVars env ctx sel rows st = .ok (outs, st', reads)) :
    ∃ ops, historyOf env ctx sel rows st = .ok ops ∧ st' = (run st ops).1 ∧ reads = columnsOf (run st ops).2 ∧
      outs.length = rows.length := by
  induction rows generalizing st outs reads with
  | nil => cases h; exact ⟨[], rfl, rfl, rfl, rfl⟩
  | cons r rs ih =>
    obtain ⟨⟨o, s1, rd1⟩, h1, h⟩ := bind_eq_ok h
    obtain ⟨⟨os, s2, rd2⟩, h2, h⟩ := bind_eq_ok h
    cases h
    obtain ⟨ops1, ho1, rfl, rfl⟩ := selVars_refines env ctx r sel st [] o s1 rd1 h1
    obtain ⟨ops2, ho2, rfl, rfl, hl⟩ := ih _ _ _ h2
    exact ⟨ops1 ++ ops2, history_row_major env ctx sel r rs st ops1 ops2 ho1 ho2, by rw [run_append],
      by rw [run_append, columnsOf_append], congrArg (· + 1) hl⟩

/-- an item that is neither a SETVAR nor a GETVAR call goes to the ordinary evaluator (after `substGet`) and leaves the
    map and the list of reads as they are -/
theorem selVars_other_untouched (env : Env N) (ctx : Ctx N) (cur : Row N) (it : SelItem N) (st : Store N) (acc acc' : Row N)
    (hc : classify it = .other it) (h : evalSel env ctx cur [substItem st it] acc = .ok acc') :
    selVars env ctx cur [it] st acc = .ok (acc', st, []) := by
  simp [selVars, hc, h, bind, Except.bind]

/-- `SELECT GETVAR('k') AS g, SETVAR('k', a) AS sv, a FROM t` over a = 5, 7 with an empty map: the first row reads NULL, the
    second reads the 5 the first row stored; the map ends with k = 7 -/
example :
    (rowsVars (N := Int) { dfx := .none, constants := none } ⟨[], false, false, [], 2⟩
      [.item (.func .none "getvar" [.str "k"]) "g" "g", .item (.func .none "setvar" [.str "k", .col ["a"]]) "sv" "sv",
       .item (.col ["a"]) "a" ""]
      [[("a", .num 5)], [("a", .num 7)]] []).toOption.map (fun t => (t.2.1, t.2.2)) =
    some ([("k", .num 7)], [none, some (.num 5)]) := by decide +kernel
/-- a counter: `SELECT SETVAR('n', GETVAR('n') + 1) AS sv, GETVAR('n') AS n FROM t` over three rows with n = 0 — the nested read
    sees what the previous row stored: 1, 2, 3 -/
example :
    (rowsVars (N := Int) { dfx := .none, constants := none } ⟨[], false, false, [], 3⟩
      [.item (.func .none "setvar" [.str "n", .bin .plus (.func .none "getvar" [.str "n"]) (.num 1)]) "sv" "sv",
       .item (.func .none "getvar" [.str "n"]) "n" "n"]
      [[("a", .num 5)], [("a", .num 7)], [("a", .num 9)]] [("n", .num 0)]).toOption.map (fun t => (t.2.1, t.2.2)) =
    some ([("n", .num 3)], [some (.num 1), some (.num 2), some (.num 3)]) := by decide +kernel
end Genql.C20

/-
  Property C12 — results are plain, self-contained data and evaluation is deterministic.

  In the model a result is a `Val N`, which cannot hold an engine-internal wrapper by construction;
  the content of the plainness claim is therefore (a) that every wrapper `Expr` can return is resolved
  by `ValueOf` before it is stored, (b) that composite results (tuples, DATERANGE, ARRAY) are built from
  resolved values, and (c) that the navigation marker never reaches an output row.  Determinism: the
  model has no iteration-order parameter where the property promises a sequence (grouping is the
  first-appearance order), and where Go iterates a map (joins) every order gives the same multiset.
-/
import Genql.Properties.C02
import Genql.Properties.C03
import Genql.Properties.C04
import Genql.Proofs.Exec
namespace Genql.C12
open Genql
variable {N : Type} [Num N]

/-- the engine-internal wrappers -/
def Internal : IVal N → Prop
  | .v _ => False
  | _ => True

/-- (a) `ValueOf` resolves every wrapper to a plain value (or fails) — nothing internal is stored -/
theorem valueOf_plain (cur : Row N) (x : IVal N) (hx : x ≠ .omit) :
    (∃ v : Val N, valueOf cur x = .ok v) ∨ (∃ e, valueOf cur x = .error e ∧ ∃ p, x = .col p) :=
  Genql.C02.select_plain cur x hx

/-- (b) a value tuple is an array of resolved values: no `NeutalString`, no `*float64` inside -/
theorem tuple_plain (env : Env N) (ctx : Ctx N) (cur : Row N) (xs : List (Expr N)) (x : IVal N)
    (h : evalExpr env ctx cur (.tuple xs) = .ok x) : ∃ vs : List (Val N), x = .v (.arr vs) := by
  rw [evalExpr_tuple] at h
  obtain ⟨vs, -, h⟩ := bind_eq_ok h
  cases h; exact ⟨vs, rfl⟩

/-- (b) DATERANGE returns a plain two-element array of texts -/
theorem daterange_plain (f t : Val N) (x : IVal N)
    (h : callBuiltin false "daterange" none 0 [f, t] = .ok x) : ∃ a b : String, x = .v (.arr [.str a, .str b]) := by
  rw [callBuiltin_guarded arityOf_daterange, callBody_daterange] at h
  obtain ⟨a, -, h⟩ := bind_eq_ok h
  obtain ⟨b, -, h⟩ := bind_eq_ok h
  cases h; exact ⟨a, b, rfl⟩

/-- (b) ARRAY returns its (resolved) arguments -/
theorem array_plain (xs : List (Val N)) : callBuiltin false "array" none 0 xs = .ok (.v (.arr xs)) := by
  rw [callBuiltin_unguarded arityOf_array, callBody_array]

/-- (c) no `<-` key in any projected row -/
theorem result_no_marker (env : Env N) (ctx : Ctx N) (cur : Row N) (sel : List (SelItem N)) (out : Row N)
    (hw : ∀ e key alias, SelItem.item e key alias ∈ sel → Genql.C02.Writes env ctx cur e)
    (hk : ∀ e key alias, SelItem.item e key alias ∈ sel → key ≠ "<-")
    (h : evalSel env ctx cur sel [] = .ok out) : lookup? "<-" out = none :=
  Genql.C02.select_no_marker env ctx cur sel out hw hk h

/-- `SELECT * FROM dual` -/
def starDual : Query N := .select [] false [.star] (.table ["dual"] "" "dual") (.bool true) [] (.bool true) [] none none

/-- (c) **the scalar sub-query `(SELECT * FROM dual)`** — which reads the current row WITH its navigation marker —
    returns a copy of the row without the marker: the star projection removes it before the value is stored -/
theorem subq_star_dual (env : Env N) (ctx : Ctx N) (cur : Row N) (hd : lookup? "dual" cur = none) :
    evalExpr env ctx cur (.subq starDual) =
      .ok (.v (.obj (copyInto [] (delKey "<-" (withMarker cur ctx.data))))) := by
  rw [evalExpr_subq, starDual, execQuery, prepare_select_nil,
    evalFrom_dual (by rw [withMarker, lookup?_setKey_other (by decide), hd])]
  rfl

theorem subq_star_dual_no_marker (env : Env N) (ctx : Ctx N) (cur : Row N) (hd : lookup? "dual" cur = none) :
    ∃ fs : Row N, evalExpr env ctx cur (.subq starDual) = .ok (.v (.obj fs)) ∧ lookup? "<-" fs = none := by
  refine ⟨_, subq_star_dual env ctx cur hd, ?_⟩
  exact lookup?_copyInto_other (not_mem_keys_delKey "<-" _) []

/-- the model has no iteration-order parameter: an equal input gives an equal result -/
theorem deterministic (env : Env N) (d1 d2 : Row N) (sc : Scope) (q : Query N) (h : d1 = d2) :
    execQuery env d1 sc q = execQuery env d2 sc q := by rw [h]

/-- grouping has no iteration-order oracle: the sequence of groups is the first-appearance order of
    the keys, a function of the rows alone -/
theorem group_order_oracle_free {α κ : Type} (same : κ → κ → Bool) (h : Genql.C06.Equiv same) (key : α → κ)
    (xs : List α) : (Genql.C03.scanG same key xs []).map (·.1) = Genql.C06.specDedup same (xs.map key) := by
  rw [Genql.C03.groups_eq_spec same h key xs, Genql.C03.groups_first_appearance]

/-- joins: whatever order the left key groups are visited in (Go map order, goroutine schedule), the
    result is the same multiset -/
theorem join_multiset_deterministic {α β γ κ : Type} [DecidableEq κ] (pair : α → β → γ) (kl : α → κ) (kr : β → κ)
    (l : List α) (r : List β) (σ₁ σ₂ : List (κ × List α))
    (h1 : σ₁.Perm (Genql.C04.catalogue kl l)) (h2 : σ₂.Perm (Genql.C04.catalogue kl l)) :
    (σ₁.flatMap fun g => g.2.flatMap fun a => (Genql.C04.lookupCat g.1 (Genql.C04.catalogue kr r)).map (pair a)).Perm
    (σ₂.flatMap fun g => g.2.flatMap fun a => (Genql.C04.lookupCat g.1 (Genql.C04.catalogue kr r)).map (pair a)) :=
  (Genql.C04.map_order_independent pair kl kr l r σ₁ h1).trans (Genql.C04.map_order_independent pair kl kr l r σ₂ h2).symm

end Genql.C12

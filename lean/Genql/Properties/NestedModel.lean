/-
  C08 for the executable model, end to end: a filter / projection query whose FROM resolves to an array of arrays
  returns the array of the inner results — for each inner array exactly `(rows.filter p).map proj`, what
  `Pipeline.select_filter_project` says the same query returns on that inner array alone.
-/
import Genql.Properties.C08
import Genql.Properties.Pipeline
namespace Genql.C08
open Genql Genql.C01 Genql.Pipeline
variable {N : Type} [Num N] [LawfulNum N]

/-- one level of nesting over flat inner arrays, for any WHERE / rest-of-pipeline pair -/
theorem nested_flat_levels (wh : List (Val N) → Row N → R Bool)
    (post : List (Val N) → List (Val N) → R (List (Val N))) (src : List (Val N))
    (yss : List (List (Row N))) (f : Row N → Bool) (g : List (Row N) → List (Val N))
    (h1 : ∀ rows ∈ yss, ∀ r ∈ rows, wh (rows.map Val.obj) r = .ok (f r))
    (h2 : ∀ rows ∈ yss, post (rows.map Val.obj) ((rows.filter f).map Val.obj) = .ok (g rows)) :
    levelLoop wh post src (yss.map fun rows => Val.arr (rows.map Val.obj)) =
      .ok (yss.map fun rows => Val.arr (g rows)) := by
  calc levelLoop wh post src (yss.map fun rows => Val.arr (rows.map Val.obj))
      = levelLoop wh post src ((yss.map (List.map Val.obj)).map Val.arr) := by rw [List.map_map]; rfl
    _ = mapE (fun rows => innerExec wh post (rows.map Val.obj)) yss := by rw [nested_exec, mapE_comp]
    _ = _ := mapE_eq_map_of_ok fun rows hrows => by
      rw [innerExec, execLevel_flat wh post rows f (h1 rows hrows), h2 rows hrows]

/-- **multi-dimensional FROM (depth 2) in the executable model**: same nesting, each inner array filtered and
    projected on its own (the select list sees the inner array's kept rows as `matched`) -/
theorem nested_select_model (env : Env N) (data : Row N) (t : String) (yss : List (List (Row N))) (p : Expr N)
    (sel : List (SelItem N)) (proj : List (Row N) → Row N → Row N)
    (ht : Val.get data t = .arr (yss.map fun rows => Val.arr (rows.map Val.obj)))
    (hwt : ∀ rows ∈ yss, ∀ r ∈ rows, WT r p)
    (hna : isAllAggr sel = false)
    (hsel : ∀ rows ∈ yss, ∀ r ∈ rows.filter (sem · p),
      evalSel env (selCtx data (rows.map Val.obj) ((rows.filter (sem · p)).map Val.obj)) r sel [] = .ok (proj rows r)) :
    execQuery env data {} (.select [] false sel (.table [t] "" t) p [] (.bool true) [] none none)
      = .ok (.arr (yss.map fun rows => Val.arr ((rows.filter (sem · p)).map fun r => Val.obj (proj rows r)))) := by
  have hna' : ∀ ctx : Ctx N, (isAllAggr sel && !ctx.grouped) = false := fun _ => by rw [hna]; rfl
  rw [execQuery_table ht,
    runSelect_level (groupBy := [])
      (nested_flat_levels _ _ _ yss (sem · p) (fun rows => (rows.filter (sem · p)).map fun r => Val.obj (proj rows r))
        (fun rows hrows r hr => whereStage_sem (hwt rows hrows r hr))
        -- an inner array: filtered, projected, no DISTINCT / ORDER BY / window
        (fun rows hrows => by
          rw [postStage_ungrouped (selStage_rows (proj rows) (hna' _) (hsel rows hrows)), tailStage_plain])),
    -- the outer level: the inner results pass through the select stage untouched
    postStage_ungrouped (selStage_arrays (hna' _)), tailStage_plain]
  rfl

end Genql.C08

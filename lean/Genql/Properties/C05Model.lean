/-
  C05 for the function the driver runs: `sortRows` (keys read once per row with `readPath`, rows ordered by
  `lessKeys` with an insertion sort) returns a permutation of its input that has no inversion w.r.t. the
  `sort.go` comparator — whenever every row's keys are readable, printable and of one sortable kind per
  column (NULL allowed).  This instantiates the abstract sorting theorems of `Properties/C05` (`sort_perm`,
  `sort_sorted`, `lessK_swo`) at the model's own `less`, so that `Pipeline.select_pipeline`'s ORDER BY stage is
  covered by them.
-/
import Genql.Properties.C05
import Genql.Proofs.Exec
namespace Genql.C05
open Genql
variable {N : Type} [Num N]

theorem rowKeys_dirs {orderBy : List (List String × Bool)} {r : Val N} {ks : List (Val N × Bool)}
    (h : rowKeys orderBy r = .ok ks) : ks.map (·.2) = orderBy.map (·.2) := by
  induction orderBy generalizing ks with
  | nil => cases h; rfl
  | cons pa rest ih =>
    obtain ⟨y, ys, hy, hys, rfl⟩ := mapE_cons_ok h
    obtain ⟨v, -, hy⟩ := bind_eq_ok hy
    obtain ⟨t, -, hy⟩ := bind_eq_ok hy
    cases hy
    exact congrArg (pa.2 :: ·) (ih hys)

omit [Num N] in
theorem zip_triples (a b : List (Val N × Bool)) (h : a.map (·.2) = b.map (·.2)) :
    (a.zip b).map (fun p => (p.1.1, p.2.1, p.1.2)) = triples (a.map (·.2)) (a.map (·.1)) (b.map (·.1)) := by
  induction a generalizing b with
  | nil => rfl
  | cons x a ih =>
    cases b with
    | nil => cases h
    | cons y b => exact congrArg ((x.1, y.1, x.2) :: ·) (ih b (List.cons.inj h).2)

theorem sortRows_ok {orderBy : List (List String × Bool)} {rows out : List (Val N)}
    (hne : (orderBy.isEmpty || decide (rows.length ≤ 1)) = false) (h : sortRows orderBy rows = .ok out) :
    ∃ keyed, out = (insertSort keyedLess keyed).map (·.2) ∧ keyed.map (·.2) = rows ∧
      ∀ a ∈ keyed, rowKeys orderBy a.2 = .ok a.1 := by
  rw [sortRows_eq, hne] at h
  obtain ⟨keyed, hm, h⟩ := bind_eq_ok h
  cases h
  exact ⟨keyed, rfl, mapE_keyed_snd (rowKeys orderBy) rows keyed hm⟩

variable [LawfulNum N]

theorem keyedLess_eq (κs : List Kind) (ds : List Bool) (a b : List (Val N × Bool) × Val N)
    (ha : a.1.map (·.2) = ds) (hb : b.1.map (·.2) = ds)
    (ka : KeysOK κs (a.1.map (·.1))) (kb : KeysOK κs (b.1.map (·.1))) :
    keyedLess a b = lessK ds (a.1.map (·.1)) (b.1.map (·.1)) := by
  rw [keyedLess, zip_triples a.1 b.1 (ha.trans hb.symm), ha, lessKeys_eq_lessK κs ds _ _ ka kb]

/-- what the keyed rows of `sortRows` satisfy -/
def KeyedOK (κs : List Kind) (ds : List Bool) (a : List (Val N × Bool) × Val N) : Prop :=
  a.1.map (·.2) = ds ∧ KeysOK κs (a.1.map (·.1))

theorem keyedLess_swo (κs : List Kind) (ds : List Bool) : SWO (keyedLess (N := N)) (KeyedOK κs ds) :=
  (lessK_swo κs ds).comap (fun a => a.1.map (·.1)) (fun _ h => h.2)
    fun a b ha hb => keyedLess_eq κs ds a b ha.1 hb.1 ha.2 hb.2

-- `[LawfulNum N]` of the `variable` line is not used; the statement is kept as it stands
set_option linter.unusedSectionVars false in
/-- **ORDER BY in the executable model returns a permutation of the rows …** -/
theorem sortRows_perm (orderBy : List (List String × Bool)) (rows out : List (Val N))
    (h : sortRows orderBy rows = .ok out) : out.Perm rows := by
  cases hne : orderBy.isEmpty || decide (rows.length ≤ 1) with
  | true =>
    rw [sortRows_eq, hne] at h
    cases h; exact List.Perm.refl _
  | false =>
    obtain ⟨keyed, rfl, h1, -⟩ := sortRows_ok hne h
    rw [← h1]
    exact (sort_perm keyedLess keyed).map _

/-- the key values of a row, as a total function (NULL where a key cannot be read) -/
def keyVals (orderBy : List (List String × Bool)) (r : Val N) : List (Val N) :=
  match rowKeys orderBy r with
  | .ok ks => ks.map (·.1)
  | .error _ => []

/-- **… that has no inversion**: no row is followed by a row that the `sort.go` comparator puts strictly
    before it — for rows whose keys are readable, printable and of one sortable kind per column -/
theorem sortRows_sorted (κs : List Kind) (orderBy : List (List String × Bool)) (rows out : List (Val N))
    (hk : ∀ r ∈ rows, ∃ ks, rowKeys orderBy r = .ok ks ∧ KeysOK κs (ks.map (·.1)))
    (hne : (orderBy.isEmpty || decide (rows.length ≤ 1)) = false)
    (h : sortRows orderBy rows = .ok out) :
    Sorted (fun a b => lessK (orderBy.map (·.2)) (keyVals orderBy a) (keyVals orderBy b)) out := by
  obtain ⟨keyed, rfl, h1, h2⟩ := sortRows_ok hne h
  have hP : ∀ a ∈ keyed, KeyedOK κs (orderBy.map (·.2)) a := by
    intro a ha
    obtain ⟨ks, hks, hok⟩ := hk a.2 (h1 ▸ List.mem_map_of_mem ha)
    rw [h2 a ha] at hks
    cases hks
    exact ⟨rowKeys_dirs (h2 a ha), hok⟩
  have hmem : ∀ a ∈ insertSort keyedLess keyed, a ∈ keyed := fun a => (sort_perm keyedLess keyed).mem_iff.mp
  rw [Sorted, List.pairwise_map]
  refine (sort_sorted keyedLess _ (keyedLess_swo κs _) keyed hP).imp_of_mem fun {a b} ha hb hab => ?_
  have pa := hP a (hmem a ha)
  have pb := hP b (hmem b hb)
  rw [keyedLess_eq κs _ b a pb.1 pa.1 pb.2 pa.2] at hab
  simp only [keyVals, h2 a (hmem a ha), h2 b (hmem b hb)]
  exact hab

end Genql.C05

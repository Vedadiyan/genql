/-
  Property C20 — SETVAR / GETVAR behave as per-key registers in evaluation order.
-/
import Genql.Model.Vars
import Genql.Proofs.Assoc
namespace Genql.C20
open Genql Genql.Vars
variable {V : Type}

/-- the specification: a register machine, `Key → Option Val`, last write wins -/
def Regs (V : Type) := String → Option V

def specStep (r : Regs V) : VOp V → Regs V × Option (Option V)
  | .set k v => (fun k' => if k' = k then some v else r k', none)
  | .get k => (r, some (r k))

def specRun (r : Regs V) : List (VOp V) → Regs V × List (Option (Option V))
  | [] => (r, [])
  | op :: ops =>
    let (r', o) := specStep r op
    let (r'', os) := specRun r' ops
    (r'', o :: os)

/-- abstraction: the association list as a register file -/
def abs (st : List (String × V)) : Regs V := fun k => lookup? k st

theorem abs_setKey (st : List (String × V)) (k : String) (v : V) :
    abs (setKey k v st) = fun k' => if k' = k then some v else abs st k' := by
  funext k'
  unfold abs
  by_cases h : k' = k
  · subst h; simp
  · simp [lookup?_setKey_other h, h]

/-- **refinement**: every step of the store commutes with the register machine and produces the
    same column -/
theorem step_refines (st : List (String × V)) (op : VOp V) :
    abs (step st op).1 = (specStep (abs st) op).1 ∧ (step st op).2 = (specStep (abs st) op).2 := by
  cases op with
  | set k v => exact ⟨abs_setKey st k v, rfl⟩
  | get k => exact ⟨rfl, rfl⟩

/-- **GETVAR returns the value most recently stored by SETVAR for that key, in evaluation order, or
    NULL if never set**: the whole history of columns equals the register machine's -/
theorem vars_refine_registers (st : List (String × V)) (ops : List (VOp V)) :
    abs (run st ops).1 = (specRun (abs st) ops).1 ∧ (run st ops).2 = (specRun (abs st) ops).2 := by
  induction ops generalizing st with
  | nil => exact ⟨rfl, rfl⟩
  | cons op ops ih =>
    obtain ⟨h1, h2⟩ := step_refines st op
    obtain ⟨i1, i2⟩ := ih (step st op).1
    simp only [run, specRun]
    rw [← h1]
    exact ⟨i1, by rw [h2, i2]⟩

theorem setvar_no_column (st : List (String × V)) (k : String) (v : V) : (step st (.set k v)).2 = none := rfl

def lastWrite (k : String) : List (VOp V) → Option V
  | [] => none
  | .set k' v :: ops => (match lastWrite k ops with | some w => some w | none => if k' = k then some v else none)
  | .get _ :: ops => lastWrite k ops

theorem lastWrite_never_set {ops : List (VOp V)} {k : String} (h : ∀ v, VOp.set k v ∉ ops) : lastWrite k ops = none := by
  induction ops with
  | nil => rfl
  | cons op ops ih =>
    have := ih fun v hv => h v (List.mem_cons_of_mem _ hv)
    cases op with
    | get k' => exact this
    | set k' v =>
      simp only [lastWrite, this]
      exact if_neg fun (e : k' = k) => h v (e ▸ List.mem_cons_self)

/-- after the history, the store holds the last value written for each key -/
theorem final_store (st : List (String × V)) (ops : List (VOp V)) (k : String) :
    abs (run st ops).1 k = (match lastWrite k ops with | some w => some w | none => abs st k) := by
  induction ops generalizing st with
  | nil => rfl
  | cons op ops ih =>
    show abs (run (step st op).1 ops).1 k = _
    rw [ih]
    cases op with
    | get k' => rfl
    | set k' v =>
      simp only [lastWrite, step, abs_setKey]
      cases lastWrite k ops with
      | some w => rfl
      | none => by_cases hk : k' = k <;> simp [hk, eq_comm (a := k)]

/-- a key never set reads as NULL, from an empty map -/
theorem never_set_is_null (ops : List (VOp V)) (k : String) (h : ∀ v, VOp.set k v ∉ ops) :
    abs (run ([] : List (String × V)) ops).1 k = none := by
  rw [final_store, lastWrite_never_set h]
  rfl

theorem run_append {V : Type} (st : List (String × V)) (a b : List (VOp V)) :
    run st (a ++ b) = ((run (run st a).1 b).1, (run st a).2 ++ (run (run st a).1 b).2) := by
  induction a generalizing st with
  | nil => rfl
  | cons op ops ih => simp only [List.cons_append, run, ih]

theorem run_length (st : List (String × V)) (ops : List (VOp V)) : (run st ops).2.length = ops.length := by
  induction ops generalizing st with
  | nil => rfl
  | cons op ops ih => exact congrArg (· + 1) (ih _)

/-- **a later query given the same map observes those values**: running two histories one after
    the other on the shared store is running their concatenation -/
theorem cross_query (st : List (String × V)) (ops1 ops2 : List (VOp V)) :
    run (run st ops1).1 ops2 = ((run st (ops1 ++ ops2)).1, (run st (ops1 ++ ops2)).2.drop ops1.length) ∧
    (run st (ops1 ++ ops2)).2.take ops1.length = (run st ops1).2 := by
  rw [run_append]
  exact ⟨by rw [List.drop_left' (run_length st ops1)], List.take_left' (run_length st ops1)⟩

example : (run ([] : List (String × Nat)) [.get "a", .set "a" 1, .get "a", .set "a" 2, .set "b" 7, .get "a", .get "c"]).2
    = [some none, none, some (some 1), none, none, some (some 2), some none] := by decide +kernel

end Genql.C20

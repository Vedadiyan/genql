/-
  C18 — ENCODE / DECODE / HASH: the byte↔text codecs round-trip.

  Model: Genql.Model.Codec (Go 1.23 `encoding/hex`, `encoding/base32` StdEncoding,
  `encoding/base64` URLEncoding, and the compositions performed by `EncodeFunc`, `DecodeFunc`,
  `HashFunc`).  Helper lemmas: Genql.Proofs.Codec.

  Trusted / not modelled (appear as hypotheses, never as axioms):
  * `encoding/gob`: `gobEnc`, `gobDec` with `gobDec (gobEnc v) = some v`.  NB gob encoding of
    `struct{Data any}` FAILS for `map[string]any` and `[]any` values (genql never calls
    `gob.Register`), so the realistic `gobEnc` is partial; `decode_encode_of_some` covers that.
  * the digests sha1 / sha256 / sha512 / md5: only their output length is assumed.
  * The model writes Go's shifts / masks / ors as `Nat` arithmetic; Genql.Proofs.CodecBits proves
    these formulas equal the literal `<<<`, `>>>`, `&&&`, `|||` expressions of the Go source.
-/
import Genql.Proofs.Codec
import Genql.Proofs.CodecBits

namespace Genql.C18
open Genql.Codec

/-! ## Round trips, for ALL byte lists -/

theorem hex_roundtrip (bs : List UInt8) : hexDec (hexEnc bs) = some bs := by
  induction bs with
  | nil => rfl
  | cons b bs ih =>
    simp only [hexEnc, hexDec, (hexDigit_spec (Nat.div_lt_of_lt_mul (n := 16) b.toNat_lt)).2,
      (hexDigit_spec (Nat.mod_lt b.toNat (by decide))).2, ih, Nat.div_add_mod', Nat.toUInt8_eq,
      UInt8.ofNat_toNat, Option.map_some]

theorem base64url_roundtrip (bs : List UInt8) : b64uDec (b64uEnc bs) = some bs :=
  b64uLoop_enc bs

theorem base32_alphabet (bs : List UInt8) : ∀ c ∈ b32Enc bs, c ∈ b32Alpha ∨ c = '=' :=
  b32Enc_forall (fun _ h => .inl (b32Char_spec h).1) (.inr rfl) bs

theorem base32_roundtrip (bs : List UInt8) : b32Dec (b32Enc bs) = some bs := by
  rw [b32Dec, List.filter_eq_self.2, b32Loop_enc]
  -- nothing in the output of `b32Enc` is stripped as a newline
  exact b32Enc_forall (P := fun c => (!isNL c) = true)
    (fun _ h => by rw [b32Val_not_nl (b32Char_spec h).2]; rfl) rfl bs

/-! ## Length laws and output alphabets -/

theorem hexEnc_length (bs : List UInt8) : (hexEnc bs).length = 2 * bs.length := by
  induction bs with
  | nil => rfl
  | cons b bs ih => simp only [hexEnc, List.length_cons, ih]; omega

/-- `8 * ⌈n / 5⌉` -/
theorem b32Enc_length (bs : List UInt8) : (b32Enc bs).length = 8 * ((bs.length + 4) / 5) := by
  induction bs using b32Enc.induct with
  | case6 a b c d e rest ih =>
    rw [b32Enc, List.length_append, ih, List.length_map, b32Idx_length]
    simp only [List.length_cons]; omega
  | _ => simp [b32Enc, List.length_take, b32Idx_length, pad]

/-- `4 * ⌈n / 3⌉` -/
theorem b64uEnc_length (bs : List UInt8) : (b64uEnc bs).length = 4 * ((bs.length + 2) / 3) := by
  induction bs using b64uEnc.induct with
  | case4 a b c rest ih => simp only [b64uEnc, List.length_cons, ih]; omega
  | _ => simp [b64uEnc]

theorem hex_alphabet (bs : List UInt8) : ∀ c ∈ hexEnc bs, c ∈ "0123456789abcdef".toList := by
  induction bs with
  | nil => nofun
  | cons b bs ih =>
    simp only [hexEnc, List.forall_mem_cons]
    exact ⟨(hexDigit_spec (Nat.div_lt_of_lt_mul (n := 16) b.toNat_lt)).1,
      (hexDigit_spec (Nat.mod_lt _ (by decide))).1, ih⟩

theorem base64url_alphabet (bs : List UInt8) :
    ∀ c ∈ b64uEnc bs,
      c ∈ "ABCDEFGHIJKLMNOPQRSTUVWXYZabcdefghijklmnopqrstuvwxyz0123456789-_".toList ∨ c = '=' :=
  b64uEnc_forall (fun _ h => .inl (b64uChar_spec h).1) bs fun _ => .inr rfl

theorem base32_alphabet' (bs : List UInt8) :
    ∀ c ∈ b32Enc bs, c ∈ "ABCDEFGHIJKLMNOPQRSTUVWXYZ234567".toList ∨ c = '=' :=
  base32_alphabet bs

/-- A multiple of 3 bytes gives no padding (the padding is the `(3 - n % 3) % 3` characters at the
    end of the last quantum). -/
theorem b64uEnc_no_pad (bs : List UInt8) (h : bs.length % 3 = 0) : '=' ∉ b64uEnc bs :=
  fun hm => b64uEnc_forall (P := (· ≠ '=')) (fun _ h => ne_of_val (b64uChar_spec h).2 b64uVal_pad)
    bs (absurd h) _ hm rfl

/-! ## Newlines are ignored by the two RFC 4648 decoders (as in Go) -/

theorem b32Dec_ignores_newlines (cs : List Char) :
    b32Dec (cs.filter fun c => !isNL c) = b32Dec cs := by
  simp [b32Dec, List.filter_filter]

/-- Go's base64 decoder skips `\r`, `\n` one at a time inside `decodeQuantum` (also between the
    padding characters); that is the same as stripping them first. -/
theorem b64uDec_ignores_newlines (cs : List Char) :
    b64uDec (cs.filter fun c => !isNL c) = b64uDec cs :=
  b64uLoop_filter cs []

/-! ## ENCODE then DECODE -/

theorem decBytes_encBytes (b : Base) (bs : List UInt8) : decBytes b (encBytes b bs) = some bs := by
  cases b
  · exact hex_roundtrip bs
  · exact base32_roundtrip bs
  · exact base64url_roundtrip bs

/-- General form: `gobEnc` may fail (as Go's does on maps and arrays); whenever ENCODE produces a
    text, DECODE with a base name that lower-cases to the same base gives the value back. -/
theorem decode_encode_of_some {V : Type} (gobEnc : V → Option (List UInt8))
    (gobDec : List UInt8 → Option V) (hgob : ∀ v bs, gobEnc v = some bs → gobDec bs = some v)
    (name name' : String) (hname : parseBase name' = parseBase name) (v : V) (text : String)
    (h : encodeWith name gobEnc v = some text) : decodeWith name' gobDec text = some v := by
  rw [encodeWith] at h
  rw [decodeWith, hname]
  cases hbs : gobEnc v <;> cases hb : parseBase name <;> rw [hbs, hb] at h <;> cases h
  simp only [String.toList_ofList, decBytes_encBytes]
  exact hgob v _ hbs

theorem encodeWith_isSome {V : Type} (gobEnc : V → Option (List UInt8)) (name : String) (v : V) :
    (encodeWith name gobEnc v).isSome = ((gobEnc v).isSome && (parseBase name).isSome) := by
  unfold encodeWith
  cases gobEnc v <;> cases parseBase name <;> rfl

/-- Total `gobEnc`; the two calls may spell the base differently. -/
theorem decode_encode_names {V : Type} (gobEnc : V → List UInt8) (gobDec : List UInt8 → Option V)
    (hgob : ∀ v, gobDec (gobEnc v) = some v) (name name' : String) (b : Base)
    (hb : parseBase name = some b) (hb' : parseBase name' = some b) (v : V) :
    (encodeWith name (fun v => some (gobEnc v)) v).bind (decodeWith name' gobDec) = some v := by
  have h : encodeWith name (fun v => some (gobEnc v)) v
      = some (String.ofList (encBytes b (gobEnc v))) := by rw [encodeWith, hb]
  rw [h, Option.bind_some]
  exact decode_encode_of_some _ gobDec (fun v bs hbs => by cases hbs; exact hgob v) name name'
    (hb'.trans hb.symm) v _ h

/-- Total `gobEnc`, each of the three bases (any spelling that lower-cases to `hex` / `base32` /
    `base64`). -/
theorem decode_encode {V : Type} (gobEnc : V → List UInt8) (gobDec : List UInt8 → Option V)
    (hgob : ∀ v, gobDec (gobEnc v) = some v) (name : String) (b : Base)
    (hb : parseBase name = some b) (v : V) :
    (encodeWith name (fun v => some (gobEnc v)) v).bind (decodeWith name gobDec) = some v :=
  decode_encode_names gobEnc gobDec hgob name name b hb hb v

theorem decode_encode_hex {V : Type} (gobEnc : V → List UInt8) (gobDec : List UInt8 → Option V)
    (hgob : ∀ v, gobDec (gobEnc v) = some v) (v : V) :
    (encodeWith "hex" (fun v => some (gobEnc v)) v).bind (decodeWith "HEX" gobDec) = some v :=
  decode_encode_names gobEnc gobDec hgob "hex" "HEX" .hex (by decide +kernel) (by decide +kernel) v

theorem decode_encode_base32 {V : Type} (gobEnc : V → List UInt8) (gobDec : List UInt8 → Option V)
    (hgob : ∀ v, gobDec (gobEnc v) = some v) (v : V) :
    (encodeWith "base32" (fun v => some (gobEnc v)) v).bind (decodeWith "base32" gobDec) = some v :=
  decode_encode gobEnc gobDec hgob "base32" .base32 (by decide +kernel) v

theorem decode_encode_base64 {V : Type} (gobEnc : V → List UInt8) (gobDec : List UInt8 → Option V)
    (hgob : ∀ v, gobDec (gobEnc v) = some v) (v : V) :
    (encodeWith "base64" (fun v => some (gobEnc v)) v).bind (decodeWith "base64" gobDec) = some v :=
  decode_encode gobEnc gobDec hgob "base64" .base64 (by decide +kernel) v

/-- Unknown base: both functions fail (Go: `UNSUPPORTED_CASE`). -/
theorem unknown_base {V : Type} (gobEnc : V → Option (List UInt8)) (gobDec : List UInt8 → Option V)
    (name : String) (h : parseBase name = none) (v : V) (text : String) :
    encodeWith name gobEnc v = none ∧ decodeWith name gobDec text = none := by
  constructor
  · unfold encodeWith; rw [h]; cases gobEnc v <;> rfl
  · simp [decodeWith, h]

/-- Non-vacuity of the hypotheses of `decode_encode`: `V := List UInt8`, gob := identity. -/
example : (encodeWith "Base32" (fun v => some v) [102, 111, 111]).bind
    (decodeWith "BASE32" some) = some [102, 111, 111] := by decide +kernel

example : encodeWith "base32" (fun v => some v) [102, 111, 111] = some "MZXW6===" := by decide +kernel

example : parseBase "base16" = none := by decide +kernel
/-- near misses stay unknown: U+017F (long s) is a case-folding partner of `s` but not its lower-case form; padding and
    look-alike letters are different names (a comparison by `EqualFold` would accept the first) -/
example : parseBase "ba\u017fe64" = none ∧ parseBase "BA\u017fE32" = none ∧ parseBase "base64 " = none ∧ parseBase " hex" = none
    ∧ parseBase "h\u0435x" = none ∧ parseBase "sha1" = none := by decide +kernel
example : parseHash "\u017fha1" = none ∧ parseHash "\u017fHA256" = none ∧ parseHash "sha-1" = none ∧ parseHash "md5 " = none
    ∧ parseHash "hex" = none ∧ parseHash "SHA512" ≠ none := by decide +kernel

/-! ## HASH -/

/-- Length of the HASH text, given only the digest sizes. -/
theorem hash_length {V : Type} (gobEnc : V → Option (List UInt8))
    (digest : HashAlg → List UInt8 → List UInt8)
    (h1 : ∀ bs, (digest .sha1 bs).length = 20) (h256 : ∀ bs, (digest .sha256 bs).length = 32)
    (h512 : ∀ bs, (digest .sha512 bs).length = 64) (h5 : ∀ bs, (digest .md5 bs).length = 16)
    (name : String) (v : V) (text : String) (h : hashWith name gobEnc digest v = some text) :
    ∃ alg, parseHash name = some alg ∧
      text.length = (match alg with | .sha1 => 40 | .sha256 => 64 | .sha512 => 128 | .md5 => 32) := by
  unfold hashWith at h
  split at h
  · next bs alg hbs halg =>
    injection h with h
    subst h
    refine ⟨alg, halg, ?_⟩
    rw [String.length_ofList, hexEnc_length]
    cases alg <;> simp [h1, h256, h512, h5]
  · cases h

/-- The HASH text consists of lower-case hex digits. -/
theorem hash_alphabet {V : Type} (gobEnc : V → Option (List UInt8))
    (digest : HashAlg → List UInt8 → List UInt8) (name : String) (v : V) (text : String)
    (h : hashWith name gobEnc digest v = some text) :
    ∀ c ∈ text.toList, c ∈ "0123456789abcdef".toList := by
  unfold hashWith at h
  split at h
  · injection h with h
    subst h
    rw [String.toList_ofList]
    exact hex_alphabet _
  · cases h

/-- HASH depends on its argument only through the gob bytes. -/
theorem hash_pure {V : Type} (gobEnc : V → Option (List UInt8))
    (digest : HashAlg → List UInt8 → List UInt8) (name : String) (v w : V)
    (h : gobEnc v = gobEnc w) : hashWith name gobEnc digest v = hashWith name gobEnc digest w := by
  simp only [hashWith, h]

/-- Non-vacuity for `hash_length`. -/
example : hashWith "SHA1" (fun v => some v) (fun _ _ => List.replicate 20 171) [1, 2, 3]
    = some "abababababababababababababababababababab" := by decide +kernel

/-! ## Test vectors (RFC 4648 §10) and Go corner cases, by kernel evaluation -/

/-- ASCII text → bytes, for the examples. -/
def bytes (s : String) : List UInt8 := s.toList.map fun c => c.toNat.toUInt8

example : b32EncS (bytes "") = "" := by decide +kernel
example : b32EncS (bytes "f") = "MY======" := by decide +kernel
example : b32EncS (bytes "fo") = "MZXQ====" := by decide +kernel
example : b32EncS (bytes "foo") = "MZXW6===" := by decide +kernel
example : b32EncS (bytes "foob") = "MZXW6YQ=" := by decide +kernel
example : b32EncS (bytes "fooba") = "MZXW6YTB" := by decide +kernel
example : b32EncS (bytes "foobar") = "MZXW6YTBOI======" := by decide +kernel

example : b32DecS "" = some (bytes "") := by decide +kernel
example : b32DecS "MY======" = some (bytes "f") := by decide +kernel
example : b32DecS "MZXQ====" = some (bytes "fo") := by decide +kernel
example : b32DecS "MZXW6===" = some (bytes "foo") := by decide +kernel
example : b32DecS "MZXW6YQ=" = some (bytes "foob") := by decide +kernel
example : b32DecS "MZXW6YTB" = some (bytes "fooba") := by decide +kernel
example : b32DecS "MZXW6YTBOI======" = some (bytes "foobar") := by decide +kernel

example : b64uEncS (bytes "") = "" := by decide +kernel
example : b64uEncS (bytes "f") = "Zg==" := by decide +kernel
example : b64uEncS (bytes "fo") = "Zm8=" := by decide +kernel
example : b64uEncS (bytes "foo") = "Zm9v" := by decide +kernel
example : b64uEncS (bytes "foob") = "Zm9vYg==" := by decide +kernel
example : b64uEncS (bytes "fooba") = "Zm9vYmE=" := by decide +kernel
example : b64uEncS (bytes "foobar") = "Zm9vYmFy" := by decide +kernel

example : b64uDecS "" = some (bytes "") := by decide +kernel
example : b64uDecS "Zg==" = some (bytes "f") := by decide +kernel
example : b64uDecS "Zm8=" = some (bytes "fo") := by decide +kernel
example : b64uDecS "Zm9v" = some (bytes "foo") := by decide +kernel
example : b64uDecS "Zm9vYg==" = some (bytes "foob") := by decide +kernel
example : b64uDecS "Zm9vYmE=" = some (bytes "fooba") := by decide +kernel
example : b64uDecS "Zm9vYmFy" = some (bytes "foobar") := by decide +kernel

/-- The URL alphabet: `-` and `_`, not `+` and `/`. -/
example : b64uEncS [251, 255, 191] = "-_-_" := by decide +kernel
example : b64uDecS "-_-_" = some [251, 255, 191] := by decide +kernel
example : b64uDecS "+/+/" = none := by decide +kernel

example : hexEncS [] = "" := by decide +kernel
example : hexEncS [0, 10, 255, 128] = "000aff80" := by decide +kernel
example : hexDecS "000aFF80" = some [0, 10, 255, 128] := by decide +kernel
example : hexDecS "0aF" = none := by decide +kernel
example : hexDecS "0g" = none := by decide +kernel

/-! Corner cases in which the model follows Go 1.23 (each checked against the real library). -/

/-- missing / wrong padding, lower case base32, garbage after base64 padding -/
example : b32DecS "MY=====" = none := by decide +kernel
example : b32DecS "MZX=====" = none := by decide +kernel
example : b32DecS "my======" = none := by decide +kernel
example : b64uDecS "Zg=" = none := by decide +kernel
example : b64uDecS "Zg" = none := by decide +kernel
example : b64uDecS "Zg==Zg==" = none := by decide +kernel
/-- newlines are skipped, also inside the padding -/
example : b32DecS "M\nY==\r====" = some (bytes "f") := by decide +kernel
example : b64uDecS "Z\ng=\n=\n" = some (bytes "f") := by decide +kernel
/-- non-canonical trailing bits are accepted (neither decoder is strict) -/
example : b64uDecS "Zh==" = some (bytes "f") := by decide +kernel
example : b32DecS "MZ======" = some (bytes "f") := by decide +kernel
/-- Go's base32 decoder stops at the padding and IGNORES up to `j` bytes of trailing garbage. -/
example : b32DecS "AA======XY" = some [0] := by decide +kernel
example : b32DecS "AAAAAAA=1234567" = some [0, 0, 0, 0] := by decide +kernel
example : b32DecS "AAAAAAA=12345678" = none := by decide +kernel

/-! ## Axiom audit -/

#print axioms hex_roundtrip
#print axioms base32_roundtrip
#print axioms base64url_roundtrip
#print axioms hexEnc_length
#print axioms b32Enc_length
#print axioms b64uEnc_length
#print axioms hex_alphabet
#print axioms base32_alphabet
#print axioms base64url_alphabet
#print axioms b64uEnc_no_pad
#print axioms b32Dec_ignores_newlines
#print axioms b64uDec_ignores_newlines
#print axioms decode_encode_of_some
#print axioms decode_encode
#print axioms decode_encode_hex
#print axioms unknown_base
#print axioms hash_length
#print axioms hash_alphabet
#print axioms hash_pure
#print axioms Genql.Codec.Bits.b32Pack_bits
#print axioms Genql.Codec.Bits.b32Idx_bits
#print axioms Genql.Codec.Bits.b32Idx_tail_bits
#print axioms Genql.Codec.Bits.b64Bytes_bits
#print axioms Genql.Codec.Bits.b64uEnc_bits

end Genql.C18

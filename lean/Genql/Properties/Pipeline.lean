/-
  The stage order of `exec()` as one theorem about the executable model: for a flat table,
    WHERE  →  select list  →  DISTINCT  →  ORDER BY  →  OFFSET / LIMIT,
  each stage applied to the whole output of the previous one.  The per-stage theorems (C01 filter,
  C02 projection, C06 first-occurrence deduplication, C05 sorting and windows) are about the very
  functions composed here, so this is what turns them into statements about whole SELECT queries —
  and what a change that moves a stage (cutting the window before DISTINCT or before the sort,
  skipping rows beyond the window in the select list) falsifies.
-/
import Genql.Properties.C01
import Genql.Proofs.Exec
import Genql.Proofs.ValEq
-- `select_pipeline_phases`, `whole_aggregate_phases`, `having_without_group_by_is_inert` take the instance arguments of the `variable` line without using them;
-- their statements are kept as they stand
set_option linter.unusedSectionVars false
namespace Genql.Pipeline
open Genql Genql.C01
variable {N : Type} [Num N] [LawfulNum N]

/-- the context `exec()` evaluates the select list in: all rows that passed WHERE are `matched` -/
def selCtx (data : Row N) (src kept : List (Val N)) : Ctx N :=
  { data := data, hard := false, grouped := false, matched := kept, fromLen := src.length }

/-- the context `exec()` evaluates WHERE in: the rows that passed are not known yet, `matched` is the whole source -/
def whereCtx (data : Row N) (src : List (Val N)) : Ctx N :=
  { data := data, hard := false, grouped := false, matched := src, fromLen := src.length }

/-- **two phases, two row sets.**  For ANY WHERE expression — in particular one that contains a whole-table aggregate, which
    `WT` excludes — whose truth value on each source row, evaluated in the SOURCE context (`matched` = every source row), is
    `keep r`: the statement returns `window (sort (dedup ((rows.filter keep).map proj)))`, where the select list was
    evaluated in the KEPT context (`matched` = the rows that passed).  An aggregate call therefore sees all source rows
    when it stands in WHERE and the filtered rows when the same text stands in the select list (repair D53).
    The right-hand side is a `let` chain: `dsimp only` after rewriting with this. -/
theorem select_pipeline_phases (env : Env N) (data : Row N) (t : String) (rows : List (Row N)) (p : Expr N)
    (sel : List (SelItem N)) (distinct : Bool) (orderBy : List (List String × Bool)) (limit offset : Option Nat)
    (keep : Row N → Bool) (proj : Row N → Row N)
    (ht : Val.get data t = .arr (rows.map Val.obj))
    (hkeep : ∀ r ∈ rows, (evalExpr env (whereCtx data (rows.map Val.obj)) r p >>= rawBool) = .ok (keep r))
    (hna : isAllAggr sel = false)
    (hsel : ∀ r ∈ rows.filter keep,
      evalSel env (selCtx data (rows.map Val.obj) ((rows.filter keep).map Val.obj)) r sel [] = .ok (proj r)) :
    execQuery env data {} (.select [] distinct sel (.table [t] "" t) p [] (.bool true) orderBy limit offset)
      = (do
          let projected := (rows.filter keep).map fun r => Val.obj (proj r)
          let deduped := if distinct then dedupBy valEq projected else projected
          let sorted ← sortRows orderBy deduped
          let out ← window sorted offset limit
          pure (Val.arr out)) := by
  rw [execQuery_flat (groupBy := []) ht keep hkeep, postStage_ungrouped (selStage_rows proj (by rw [hna]; rfl) hsel)]
  exact tailStage_bind ..

/-- **stage order.**  `SELECT [DISTINCT] sel FROM t WHERE p ORDER BY … LIMIT … OFFSET …` over a document
    whose key `t` holds an array of objects: if `p` is well typed on every row and the select list
    evaluates on every kept row (to `proj r`), the query returns
    `window (sort (dedup ((rows.filter p).map proj)))` — or exactly the error of the sort / window. -/
theorem select_pipeline (env : Env N) (data : Row N) (t : String) (rows : List (Row N)) (p : Expr N)
    (sel : List (SelItem N)) (distinct : Bool) (orderBy : List (List String × Bool)) (limit offset : Option Nat)
    (proj : Row N → Row N)
    (ht : Val.get data t = .arr (rows.map Val.obj)) (hwt : ∀ r ∈ rows, WT r p)
    (hna : isAllAggr sel = false)
    (hsel : ∀ r ∈ rows.filter (sem · p),
      evalSel env (selCtx data (rows.map Val.obj) ((rows.filter (sem · p)).map Val.obj)) r sel [] = .ok (proj r)) :
    execQuery env data {} (.select [] distinct sel (.table [t] "" t) p [] (.bool true) orderBy limit offset)
      = (do
          let projected := (rows.filter (sem · p)).map fun r => Val.obj (proj r)
          let deduped := if distinct then dedupBy valEq projected else projected
          let sorted ← sortRows orderBy deduped
          let out ← window sorted offset limit
          pure (Val.arr out)) :=
  select_pipeline_phases env data t rows p sel distinct orderBy limit offset (sem · p) proj ht
    (fun r hr => whereStage_sem (hwt r hr)) hna hsel

/-- without ORDER BY, DISTINCT and a window the pipeline is filter-then-project (C01 + C02) -/
theorem select_filter_project (env : Env N) (data : Row N) (t : String) (rows : List (Row N)) (p : Expr N)
    (sel : List (SelItem N)) (proj : Row N → Row N)
    (ht : Val.get data t = .arr (rows.map Val.obj)) (hwt : ∀ r ∈ rows, WT r p)
    (hna : isAllAggr sel = false)
    (hsel : ∀ r ∈ rows.filter (sem · p),
      evalSel env (selCtx data (rows.map Val.obj) ((rows.filter (sem · p)).map Val.obj)) r sel [] = .ok (proj r)) :
    execQuery env data {} (.select [] false sel (.table [t] "" t) p [] (.bool true) [] none none)
      = .ok (.arr ((rows.filter (sem · p)).map fun r => Val.obj (proj r))) := by
  rw [select_pipeline env data t rows p sel false [] none none proj ht hwt hna hsel]
  simp [sortRows_nil, window_none, bind, Except.bind, pure, Except.pure]

/-- with DISTINCT only: the first occurrences of the projected rows, in order -/
theorem select_distinct (env : Env N) (data : Row N) (t : String) (rows : List (Row N)) (p : Expr N)
    (sel : List (SelItem N)) (proj : Row N → Row N)
    (ht : Val.get data t = .arr (rows.map Val.obj)) (hwt : ∀ r ∈ rows, WT r p)
    (hna : isAllAggr sel = false)
    (hsel : ∀ r ∈ rows.filter (sem · p),
      evalSel env (selCtx data (rows.map Val.obj) ((rows.filter (sem · p)).map Val.obj)) r sel [] = .ok (proj r)) :
    execQuery env data {} (.select [] true sel (.table [t] "" t) p [] (.bool true) [] none none)
      = .ok (.arr (dedupBy valEq ((rows.filter (sem · p)).map fun r => Val.obj (proj r)))) := by
  rw [select_pipeline env data t rows p sel true [] none none proj ht hwt hna hsel]
  simp [sortRows_nil, window_none, bind, Except.bind, pure, Except.pure]

/-- **whole-table aggregates.**  When the select list consists of aggregates only and there is no GROUP BY, the
    query computes ONE row, over ALL the rows that passed WHERE (they are `matched` of the context the select
    list is evaluated in, whatever LIMIT / OFFSET say), and DISTINCT, ORDER BY and the window then apply to
    that one row — a LIMIT cannot shorten what the aggregates see.  This for ANY WHERE expression (aggregates included)
    with truth value `keep r` in the source context: the ONE row is computed over the rows that passed, whatever value
    the same aggregate text had while WHERE was evaluated (D53). -/
theorem whole_aggregate_phases (env : Env N) (data : Row N) (t : String) (rows : List (Row N)) (p : Expr N)
    (sel : List (SelItem N)) (distinct : Bool) (orderBy : List (List String × Bool)) (limit offset : Option Nat)
    (keep : Row N → Bool) (row : Row N)
    (ht : Val.get data t = .arr (rows.map Val.obj))
    (hkeep : ∀ r ∈ rows, (evalExpr env (whereCtx data (rows.map Val.obj)) r p >>= rawBool) = .ok (keep r))
    (hall : isAllAggr sel = true)
    (hsel : evalSel env (selCtx data (rows.map Val.obj) ((rows.filter keep).map Val.obj)) [] sel [] = .ok row) :
    execQuery env data {} (.select [] distinct sel (.table [t] "" t) p [] (.bool true) orderBy limit offset)
      = (do
          let out ← window [Val.obj row] offset limit
          pure (Val.arr out)) := by
  rw [execQuery_flat (groupBy := []) ht keep hkeep, postStage_ungrouped (selStage_whole hall rfl hsel), tailStage_single]

/-- … for a WHERE that is well typed on every row: the rows that passed are those with SQL truth value true -/
theorem whole_aggregate_pipeline (env : Env N) (data : Row N) (t : String) (rows : List (Row N)) (p : Expr N)
    (sel : List (SelItem N)) (distinct : Bool) (orderBy : List (List String × Bool)) (limit offset : Option Nat)
    (row : Row N)
    (ht : Val.get data t = .arr (rows.map Val.obj)) (hwt : ∀ r ∈ rows, WT r p)
    (hall : isAllAggr sel = true)
    (hsel : evalSel env (selCtx data (rows.map Val.obj) ((rows.filter (sem · p)).map Val.obj)) [] sel [] = .ok row) :
    execQuery env data {} (.select [] distinct sel (.table [t] "" t) p [] (.bool true) orderBy limit offset)
      = (do
          let out ← window [Val.obj row] offset limit
          pure (Val.arr out)) :=
  whole_aggregate_phases env data t rows p sel distinct orderBy limit offset (sem · p) row ht
    (fun r hr => whereStage_sem (hwt r hr)) hall hsel

/-- in particular `SELECT <aggregates> FROM t WHERE p LIMIT n` (n ≥ 1) is the row over all matching rows -/
theorem whole_aggregate_limit (env : Env N) (data : Row N) (t : String) (rows : List (Row N)) (p : Expr N)
    (sel : List (SelItem N)) (n : Nat) (hn : 1 ≤ n) (row : Row N)
    (ht : Val.get data t = .arr (rows.map Val.obj)) (hwt : ∀ r ∈ rows, WT r p)
    (hall : isAllAggr sel = true)
    (hsel : evalSel env (selCtx data (rows.map Val.obj) ((rows.filter (sem · p)).map Val.obj)) [] sel [] = .ok row) :
    execQuery env data {} (.select [] false sel (.table [t] "" t) p [] (.bool true) [] (some n) none)
      = .ok (.arr [.obj row]) := by
  rw [whole_aggregate_pipeline env data t rows p sel false [] (some n) none row ht hwt hall hsel, C05.window_exact,
    List.take_of_length_le (by simpa using hn)]
  rfl

/-- A HAVING clause on a statement WITHOUT GROUP BY is read and applies nothing: the statement returns what it returns
    without it — one output row per row that passed WHERE (C02), whatever the HAVING condition says.  (This is the
    engine's behaviour, mirrored by the model; a change that starts filtering by it breaks C02's row count.) -/
theorem having_without_group_by_is_inert (env : Env N) (data : Row N) (sc : Scope) (ctes : List (Cte N)) (distinct : Bool)
    (sel : List (SelItem N)) (frm : From N) (wh hv : Expr N) (orderBy : List (List String × Bool)) (limit offset : Option Nat) :
    execQuery env data sc (.select ctes distinct sel frm wh [] hv orderBy limit offset)
      = execQuery env data sc (.select ctes distinct sel frm wh [] (.bool true) orderBy limit offset) := by
  rw [execQuery, execQuery, prepare_select, prepare_select]
  -- with an empty GROUP BY `postStage` never reaches `groupStage`, the only reader of HAVING
  rfl

end Genql.Pipeline

/-! ### a concrete instance (a test of the statement's shape, not part of the proof)

  `decide +kernel`: evaluated by the elaborator first (`decide`, `rfl`) these queries are thirty times slower to check. -/
namespace Genql.Pipeline
open Genql
def exData : Row Int := [("t", .arr [.obj [("a", .num 2), ("b", .num 9)], .obj [("a", .num 1), ("b", .num 8)],
  .obj [("a", .num 2), ("b", .num 7)], .obj [("a", .num 5), ("b", .num 0)]])]
def exEnv : Env Int := { dfx := .none, constants := none, failOn := none }
/-- `SELECT DISTINCT a FROM t WHERE b > 0 ORDER BY a DESC LIMIT 1 OFFSET 1`:
    kept a = 2,1,2 → distinct 2,1 → sorted DESC 2,1 → window [1] -/
example : execQuery exEnv exData {} (.select [] true [.item (.col ["a"]) "a" ""] (.table ["t"] "" "t")
      (.cmp .gt (.col ["b"]) (.num 0)) [] (.bool true) [(["a"], false)] (some 1) (some 1))
    = .ok (.arr [.obj [("a", .num 1)]]) := by decide +kernel
/-- `SELECT COUNT(*) AS n, SUM(a) AS s FROM t WHERE b > 0 LIMIT 1`: three rows pass, the one row is over all three -/
example : execQuery exEnv exData {} (.select [] false [.item (.aggr "count" []) "n" "n", .item (.aggr "sum" [.col ["a"]]) "s" "s"]
      (.table ["t"] "" "t") (.cmp .gt (.col ["b"]) (.num 0)) [] (.bool true) [] (some 1) none)
    = .ok (.arr [.obj [("n", .num 3), ("s", .num 5)]]) := by decide +kernel
/-- a CORRELATED `IN` sub-query — ``SELECT id FROM t WHERE id IN (SELECT v FROM `<-u` WHERE v >= `<-.lo`)`` — is evaluated for
    every outer row with that row behind `<-`: the candidate set differs from row to row ({} for lo = 10, {1,2,3} for lo = 0,
    {3} for lo = 3, {2,3} for lo = 2), so rows 2 and 3 are kept (a memo per sub-query text would keep the first row's set) -/
example : execQuery exEnv
      [("t", .arr [.obj [("id", .num 1), ("lo", .num 10)], .obj [("id", .num 2), ("lo", .num 0)], .obj [("id", .num 3), ("lo", .num 3)],
                   .obj [("id", .num 1), ("lo", .num 2)], .obj [("id", .num 5), ("lo", .num 0)]]),
       ("u", .arr [.obj [("v", .num 1)], .obj [("v", .num 2)], .obj [("v", .num 3)]])] {}
      (.select [] false [.item (.col ["id"]) "id" ""] (.table ["t"] "" "t")
        (.cmp .in_ (.col ["id"]) (.subq (.select [] false [.item (.col ["v"]) "v" ""] (.table ["<-", "u"] "" "<-u")
          (.cmp .ge (.col ["v"]) (.col ["<-", "lo"])) [] (.bool true) [] none none)))
        [] (.bool true) [] none none)
    = .ok (.arr [.obj [("id", .num 2)], .obj [("id", .num 3)]]) := by decide +kernel

/-- `SELECT SUM(f) AS v FROM t` / `SELECT g, MAX(f) AS v FROM t GROUP BY g` over rows whose `f` is a boolean on one row: the
    statement fails (C19; `C19.numeric_aggregate_type_error` is the general fact about the aggregate bodies) -/
example : execQuery exEnv [("t", .arr [.obj [("f", .num 1), ("g", .num 1)], .obj [("f", .bool true), ("g", .num 1)]])] {}
      (.select [] false [.item (.aggr "sum" [.col ["f"]]) "v" "v"] (.table ["t"] "" "t") (.bool true) [] (.bool true) [] none none)
    = .error .error := by decide +kernel
example : execQuery exEnv [("t", .arr [.obj [("f", .num 1), ("g", .num 1)], .obj [("f", .bool true), ("g", .num 1)]])] {}
      (.select [] false [.item (.col ["g"]) "g" "", .item (.aggr "max" [.col ["f"]]) "v" "v"] (.table ["t"] "" "t") (.bool true)
        [("g", ["g"])] (.bool true) [] none none)
    = .error .error := by decide +kernel
/-- every `<-` is exactly one step back, also under EXISTS: in
    ``SELECT id FROM t WHERE EXISTS (SELECT * FROM items WHERE k > `<-.lim`)`` the inner WHERE reads the OUTER row's `lim`
    (only row 1 has an item above its own limit), and in
    ``… WHERE EXISTS (SELECT * FROM items WHERE k IN (SELECT id FROM `<-.<-.u`))`` two steps lead from the item over the row to the
    document (items 1 and 3 are ids of `u`); a row that already carries a marker is re-scoped like any other -/
def exNav : Row Int :=
  [("t", .arr [.obj [("id", .num 1), ("lim", .num 1), ("items", .arr [.obj [("k", .num 1)], .obj [("k", .num 2)]])],
               .obj [("id", .num 2), ("lim", .num 5), ("items", .arr [.obj [("k", .num 3)]])],
               .obj [("id", .num 3), ("lim", .num 0), ("items", .arr [])]]),
   ("u", .arr [.obj [("id", .num 1)], .obj [("id", .num 3)]])]
example : execQuery exEnv exNav {} (.select [] false [.item (.col ["id"]) "id" ""] (.table ["t"] "" "t")
      (.exists (.select [] false [.star] (.table ["items"] "" "items") (.cmp .gt (.col ["k"]) (.col ["<-", "lim"])) [] (.bool true) [] none none))
      [] (.bool true) [] none none)
    = .ok (.arr [.obj [("id", .num 1)]]) := by decide +kernel
example : execQuery exEnv exNav {} (.select [] false [.item (.col ["id"]) "id" ""] (.table ["t"] "" "t")
      (.exists (.select [] false [.star] (.table ["items"] "" "items")
        (.cmp .in_ (.col ["k"]) (.subq (.select [] false [.item (.col ["id"]) "id" ""] (.table ["<-", "<-", "u"] "" "<-.<-.u")
          (.bool true) [] (.bool true) [] none none))) [] (.bool true) [] none none))
      [] (.bool true) [] none none)
    = .ok (.arr [.obj [("id", .num 1)], .obj [("id", .num 2)]]) := by decide +kernel
/-- `SELECT a, a - MAX(a) AS d FROM t LIMIT 2`: an aggregate NESTED in an expression of a plain select list is over all rows
    that passed WHERE (MAX = 5, from the fourth row), although the window keeps two (the scan does not stop at the
    end of the window) -/
example : execQuery exEnv exData {} (.select [] false [.item (.col ["a"]) "a" "", .item (.bin .minus (.col ["a"]) (.aggr "max" [.col ["a"]])) "d" "d"]
      (.table ["t"] "" "t") (.bool true) [] (.bool true) [] (some 2) none)
    = .ok (.arr [.obj [("a", .num 2), ("d", .num (-3))], .obj [("a", .num 1), ("d", .num (-4))]]) := by decide +kernel
/-- the WHERE hypothesis of `select_pipeline_phases` is met by a predicate with an aggregate: on the four rows of `t`,
    `a * 4 > SUM(a)` (SUM over the SOURCE = 10) keeps exactly the row with a = 5 -/
def exRows : List (Row Int) := [[("a", .num 2), ("b", .num 9)], [("a", .num 1), ("b", .num 8)], [("a", .num 2), ("b", .num 7)], [("a", .num 5), ("b", .num 0)]]
example : ∀ r ∈ exRows, (evalExpr exEnv (whereCtx exData (exRows.map Val.obj)) r
      (.cmp .gt (.bin .mult (.col ["a"]) (.num 4)) (.aggr "sum" [.col ["a"]])) >>= rawBool)
    = .ok (decide (Val.get r "a" = .num 5)) := by decide +kernel
/-- `SELECT SUM(a) AS s, COUNT(*) AS n FROM t WHERE a * 4 > SUM(a)`: the `SUM(a)` inside WHERE is over ALL source rows
    (2+1+2+5 = 10: the filter has not run), the `SUM(a)` of the same text in the select list is over the one row that
    passed (a = 5).  One memo entry shared between the two answers s = 10 (repair D53). -/
example : execQuery exEnv exData {} (.select [] false [.item (.aggr "sum" [.col ["a"]]) "s" "s", .item (.aggr "count" []) "n" "n"]
      (.table ["t"] "" "t") (.cmp .gt (.bin .mult (.col ["a"]) (.num 4)) (.aggr "sum" [.col ["a"]])) [] (.bool true) [] none none)
    = .ok (.arr [.obj [("s", .num 5), ("n", .num 1)]]) := by decide +kernel
/-- ... and when no row passes, the select list's aggregate is NULL / 0 although the WHERE-phase value exists (the witness of D53) -/
example : execQuery exEnv exData {} (.select [] false [.item (.aggr "sum" [.col ["a"]]) "s" "s", .item (.aggr "count" []) "n" "n"]
      (.table ["t"] "" "t") (.cmp .gt (.col ["a"]) (.aggr "sum" [.col ["a"]])) [] (.bool true) [] none none)
    = .ok (.arr [.obj [("s", .null), ("n", .num 0)]]) := by decide +kernel
end Genql.Pipeline

/-
  Property C15 — "The comparison used by WHERE, ORDER BY, IN and joins returns only -1, 0 or 1 and
  is a coherent order: for numbers of any Go numeric type (within the exactly-representable range)
  it agrees with the mathematical order of the values - 1 < 1.5 whether 1 arrives as int or
  float64, and -1 < uint(1) - for two strings with byte-wise lexicographic order, and for a number
  against a string with the order of the number's decimal text against that string.  It is
  reflexive, antisymmetric (cmp(a,b) = -cmp(b,a)) and, within each kind, transitive."

  Model: `Genql.Cmp.compareGo` (Genql/Model/Compare.lean), a branch-for-branch transcription of
  `Compare`/`compare[T]`/`Cmp`/`integer`/`As` of /repo/compare/compare.go.  `compareGo a b = none`
  only when a `%v` text the Go code needs is outside the model (`fmtGo = none`).

  Counter-examples show that the hypotheses cannot be dropped: outside the exactly-representable
  range the order of numbers is not transitive, and across kinds (number/string) it is not either.

  Every answer is the three-way comparison `Cmp.cmp3` of two keys in a linear order, and the order
  properties are those of `cmp3` (Proofs/Compare).
-/
import Genql.Proofs.Compare
namespace Genql.C15
open Genql Genql.Cmp

/-! ## Specification vocabulary -/

/-- the exact mathematical value `m / 2^e` of a number (0 for a non-number) -/
def val : GoVal → Cmp.Dyadic
  | .int _ v => ⟨v, 0⟩
  | .f32 d => d
  | .f64 d => d
  | _ => ⟨0, 0⟩

/-- `sign (x - y)` for `x = x.m / 2^x.e`, `y = y.m / 2^y.e`, by cross-multiplication:
    `sign (x.m * 2^y.e - y.m * 2^x.e)` (the common denominator `2^(x.e + y.e)` is positive).
    The vocabulary writes `2 ^ n` where the model writes `pow2 n`, so that it can be read without
    the model. -/
def signSub (x y : Cmp.Dyadic) : Int := Int.sign (x.m * Int.ofNat (2 ^ y.e) - y.m * Int.ofNat (2 ^ x.e))

/-- mathematical order of two dyadic rationals (cross-multiplied) -/
def vlt (x y : Cmp.Dyadic) : Prop := x.m * Int.ofNat (2 ^ y.e) < y.m * Int.ofNat (2 ^ x.e)

abbrev IsNum (a : GoVal) : Prop := a.isNum = true

/-- the conversion `float64(a)` is exact: `|v| ≤ 2^53` for an integer, always for a float (a
    `float32`/`float64` value *is* a dyadic rational) -/
def Exact : GoVal → Prop
  | .int _ v => v.natAbs ≤ 2 ^ 53
  | _ => True

instance : DecidablePred Exact := fun a => by cases a <;> unfold Exact <;> infer_instance

/-- the model predicts the `%v` text -/
abbrev Fmtable (a : GoVal) : Prop := (fmtGo a).isSome = true

/-- the textbook three-way comparison of two strings -/
def lex3 (a b : String) : Int := if a < b then -1 else if a = b then 0 else 1

def toRat (d : Cmp.Dyadic) : Rat := (d.m : Rat) / ((2 ^ d.e : Nat) : Rat)

theorem asF64_exact {a : GoVal} (ea : Exact a) : asF64 a = val a := by
  cases a with
  | int k v => exact intToF64_exact ea
  | _ => rfl

theorem div_lt_div_iff_cross (a b : Int) (P Q : Nat) (hP : 0 < P) (hQ : 0 < Q) :
    (a : Rat) / (P : Rat) < (b : Rat) / (Q : Rat) ↔ a * Int.ofNat Q < b * Int.ofNat P := by
  -- `a / P < b / Q ↔ a / P * Q < b ↔ a * Q / P < b ↔ a * Q < b * P`, then back to `Int`
  rw [Rat.lt_div_iff (Rat.natCast_pos.mpr hQ), Rat.div_def, Rat.mul_assoc, Rat.mul_comm _ (Q : Rat),
    ← Rat.mul_assoc, ← Rat.div_def, Rat.div_lt_iff (Rat.natCast_pos.mpr hP),
    ← Rat.intCast_natCast Q, ← Rat.intCast_natCast P, ← Rat.intCast_mul, ← Rat.intCast_mul,
    Rat.intCast_lt_intCast]
  rfl

theorem vlt_iff_toRat_lt (x y : Cmp.Dyadic) : vlt x y ↔ toRat x < toRat y :=
  (div_lt_div_iff_cross x.m y.m (2 ^ x.e) (2 ^ y.e) (Nat.two_pow_pos _) (Nat.two_pow_pos _)).symm

/-- `signSub` is `cmp3` of the rational values (`Rat` is the linear order `cmp3_trans` is applied in) -/
theorem signSub_eq_cmp3 (x y : Cmp.Dyadic) : signSub x y = cmp3 (toRat x) (toRat y) := by
  rw [signSub, sign_sub_eq_cmp3]
  exact cmp3_congr (vlt_iff_toRat_lt x y) (vlt_iff_toRat_lt y x)

/-! ## Range, antisymmetry, reflexivity (all values) -/

/-- C15, "returns only -1, 0 or 1" — for ALL values. -/
theorem cmp_range {a b : GoVal} {c : Int} (h : compareGo a b = some c) :
    c = -1 ∨ c = 0 ∨ c = 1 := by
  rcases compareGo_eq_cmp3 h with ⟨p, q, rfl, -⟩ | ⟨s, t, rfl, -⟩ <;> exact cmp3_range _ _

example : compareGo (.int .int8 (-3)) (.f32 ⟨5, 2⟩) = some (-1) := by decide +kernel

/-- C15, antisymmetric: `cmp(b, a) = -cmp(a, b)` for ALL values of the model, whatever mix of
    kinds (in particular `compareGo b a` is defined whenever `compareGo a b` is). -/
theorem cmp_antisymm {a b : GoVal} {c : Int} (h : compareGo a b = some c) :
    compareGo b a = some (-c) := by
  rcases compareGo_eq_cmp3 h with ⟨p, q, rfl, e⟩ | ⟨s, t, rfl, e⟩ <;> rw [e, cmp3_antisymm]

example : compareGo (.int .int 10) (.str "9") = some (-1) ∧
    compareGo (.str "9") (.int .int 10) = some 1 := by decide +kernel
example : compareGo (.bool false) (.f64 ⟨3, 1⟩) = some 1 ∧
    compareGo (.f64 ⟨3, 1⟩) (.bool false) = some (-1) := by decide +kernel

/-- The result is defined exactly when both operands are numbers or both `%v` texts are in the
    model (the text of a string, bool, nil and integer always is). -/
theorem cmp_defined_iff (a b : GoVal) :
    (compareGo a b).isSome = true ↔ (IsNum a ∧ IsNum b) ∨ (Fmtable a ∧ Fmtable b) := by
  by_cases hn : IsNum a ∧ IsNum b
  · rw [compareGo_num_num hn.1 hn.2]; exact ⟨fun _ => .inl hn, fun _ => rfl⟩
  · rw [compareGo_text hn]
    unfold cmpText Fmtable
    cases fmtGo a <;> cases fmtGo b <;> simp [hn]

/-- whenever `compareGo a a` is defined it is 0: by antisymmetry it is its own negative -/
theorem cmp_refl' {a : GoVal} {c : Int} (h : compareGo a a = some c) : c = 0 := by
  have e := cmp_antisymm h
  rw [h] at e
  have := Option.some.inj e
  omega

/-- C15, reflexive.  (A float whose text is out of the model is still equal to itself.) -/
theorem cmp_refl {a : GoVal} (h : IsNum a ∨ Fmtable a) : compareGo a a = some 0 := by
  have hd := (cmp_defined_iff a a).mpr (h.imp (fun h => ⟨h, h⟩) (fun h => ⟨h, h⟩))
  obtain ⟨c, hc⟩ := Option.isSome_iff_exists.mp hd
  rw [hc, cmp_refl' hc]

example : compareGo (.f64 ⟨1, 60⟩) (.f64 ⟨1, 60⟩) = some 0 := by decide +kernel

/-! ## Numbers: the mathematical order -/

/-- on exact numbers `Cmp` compares the mathematical values, whichever of its two paths it takes -/
theorem cmpNum_exact {a b : GoVal} (ea : Exact a) (eb : Exact b) :
    cmpNum a b = signSub (val a) (val b) := by
  rw [signSub, sign_sub_eq_cmp3]
  show _ = cmp3 ((val a).m * pow2 (val b).e) ((val b).m * pow2 (val a).e)
  cases a with
  | int k v =>
    cases b with
    | int k' w =>
      rw [cmpNum_int]
      show cmp3 v w = cmp3 (v * pow2 0) (w * pow2 0)
      rw [pow2_zero, Int.mul_one, Int.mul_one]
    | _ => rw [cmpNum_float (.inr rfl), asF64_exact ea, asF64_exact eb]
  | _ => rw [cmpNum_float (.inl rfl), asF64_exact ea, asF64_exact eb]

/-- C15, numbers of any two Go numeric kinds within the exactly-representable range are ordered
    by their mathematical values: the result is `sign (val a - val b)`. -/
theorem cmp_num_math {a b : GoVal} (ha : IsNum a) (hb : IsNum b) (ea : Exact a) (eb : Exact b) :
    compareGo a b = some (signSub (val a) (val b)) := by
  rw [compareGo_num_num ha hb, cmpNum_exact ea eb]

example : IsNum (.int .uint8 200) ∧ IsNum (.f32 ⟨-7, 3⟩) ∧ Exact (.int .uint8 200) ∧
    Exact (.f32 ⟨-7, 3⟩) ∧ compareGo (.int .uint8 200) (.f32 ⟨-7, 3⟩) = some 1 := by decide +kernel

/-- Two integers of any kinds and ANY magnitude (no exactness hypothesis: the sign-and-magnitude
    branch of `Cmp` never converts to `float64`). -/
theorem cmp_int_math (k k' : IntKind) (v w : Int) :
    compareGo (.int k v) (.int k' w) = some (Int.sign (v - w)) := by
  rw [compareGo_num_num rfl rfl, cmpNum_int, sign_sub_eq_cmp3]

example : compareGo (.int .int64 (-9223372036854775808)) (.int .uint64 18446744073709551615)
    = some (-1) := by decide +kernel
example : compareGo (.int .uint64 18446744073709551615) (.int .int64 9223372036854775807)
    = some 1 := by decide +kernel

theorem cmp_num_lt_iff {a b : GoVal} (ha : IsNum a) (hb : IsNum b) (ea : Exact a) (eb : Exact b) :
    compareGo a b = some (-1) ↔ vlt (val a) (val b) := by
  rw [cmp_num_math ha hb ea eb, Option.some.injEq, signSub, sign_sub_eq_cmp3]
  exact cmp3_eq_neg_one
theorem cmp_num_gt_iff {a b : GoVal} (ha : IsNum a) (hb : IsNum b) (ea : Exact a) (eb : Exact b) :
    compareGo a b = some 1 ↔ vlt (val b) (val a) := by
  rw [cmp_num_math ha hb ea eb, Option.some.injEq, signSub, sign_sub_eq_cmp3]
  exact cmp3_eq_one
theorem cmp_num_eq_iff {a b : GoVal} (ha : IsNum a) (hb : IsNum b) (ea : Exact a) (eb : Exact b) :
    compareGo a b = some 0 ↔
      (val a).m * Int.ofNat (2 ^ (val b).e) = (val b).m * Int.ofNat (2 ^ (val a).e) := by
  rw [cmp_num_math ha hb ea eb, Option.some.injEq, signSub, sign_sub_eq_cmp3]
  exact cmp3_eq_zero

/-- the result does not depend on the Go types the two numbers arrive in -/
theorem cmp_num_kind_irrelevant {a b a' b' : GoVal} (ha : IsNum a) (hb : IsNum b) (ea : Exact a)
    (eb : Exact b) (ha' : IsNum a') (hb' : IsNum b') (ea' : Exact a') (eb' : Exact b')
    (hva : val a = val a') (hvb : val b = val b') : compareGo a b = compareGo a' b' := by
  rw [cmp_num_math ha hb ea eb, cmp_num_math ha' hb' ea' eb', hva, hvb]

/-- C15 for numbers, stated over `Rat`: the result is the three-way comparison of the two
    rational values. -/
theorem cmp_num_rat {a b : GoVal} (ha : IsNum a) (hb : IsNum b) (ea : Exact a) (eb : Exact b) :
    compareGo a b = some (if toRat (val a) < toRat (val b) then -1
      else if toRat (val a) = toRat (val b) then 0 else 1) := by
  rw [cmp_num_math ha hb ea eb, signSub_eq_cmp3]; rfl

/-! The witnesses named in the property text. -/
example : compareGo (.int .int 1) (.f64 ⟨3, 1⟩) = some (-1) := by decide +kernel
example : compareGo (.f64 ⟨3, 1⟩) (.int .int 1) = some 1 := by decide +kernel
example : compareGo (.f64 ⟨1, 0⟩) (.f64 ⟨3, 1⟩) = some (-1) := by decide +kernel
example : compareGo (.int .int (-1)) (.int .uint 1) = some (-1) := by decide +kernel
example : compareGo (.int .uint 1) (.int .int (-1)) = some 1 := by decide +kernel

/-! ## Texts: every pair that is not number/number -/

/-- Every pair that is not number/number: the two `%v` texts are compared. -/
theorem cmp_other_text {a b : GoVal} (h : ¬ (IsNum a ∧ IsNum b)) {s t : String}
    (hs : fmtGo a = some s) (ht : fmtGo b = some t) : compareGo a b = some (lex3 s t) := by
  rw [compareGo_text h, cmpText, hs, ht]
  exact congrArg some (strCompare_eq_cmp3 s t)

example : compareGo (.bool true) .nil = some 1 := by decide +kernel

/-- C15, two strings are ordered lexicographically (`strings.Compare`). -/
theorem cmp_str_lex (a b : String) :
    compareGo (.str a) (.str b) = some (if a < b then -1 else if a = b then 0 else 1) :=
  cmp_other_text (a := .str a) (fun h => Bool.false_ne_true h.1) rfl rfl

example : compareGo (.str "abc") (.str "abd") = some (-1) := by decide +kernel
example : compareGo (.str "b") (.str "abd") = some 1 := by decide +kernel

set_option linter.unusedVariables false in
/-- C15, a number against a string: the number's `%v` text against the string.  (The hypothesis
    `IsNum a` is not needed: it is `cmp_other_text` whatever `a` is.) -/
theorem cmp_num_str_text {a : GoVal} (ha : IsNum a) {t : String} (ht : fmtGo a = some t)
    (s : String) : compareGo a (.str s) = some (lex3 t s) :=
  cmp_other_text (b := .str s) (fun h => Bool.false_ne_true h.2) ht rfl

/-- … in the other argument order. -/
theorem cmp_str_num_text {a : GoVal} {t : String} (ht : fmtGo a = some t) (s : String) :
    compareGo (.str s) a = some (lex3 s t) :=
  cmp_other_text (a := .str s) (fun h => Bool.false_ne_true h.1) rfl ht

example : fmtGo (.int .int 10) = some "10" ∧
    compareGo (.int .int 10) (.str "9") = some (-1) ∧
    compareGo (.str "9") (.int .int 10) = some 1 := by decide +kernel
example : fmtGo (.f64 ⟨3, 1⟩) = some "1.5" ∧
    compareGo (.f64 ⟨3, 1⟩) (.str "1.5") = some 0 := by decide +kernel
example : fmtGo (.f64 ⟨1000000, 0⟩) = some "1e+06" ∧
    compareGo (.f64 ⟨1000000, 0⟩) (.str "1000000") = some 1 := by decide +kernel

/-! ## Transitivity within a kind

Within a kind `compareGo` is `cmp3` of keys in ONE linear order (`Rat`, `Int`, `String`), so each
statement is `cmp3_trans` there. -/

/-- C15, transitive on numbers (any mix of the twelve numeric kinds, exact range): from
    `a ≤ b` (`x ≤ 0`) and `b ≤ c` (`y ≤ 0`) the comparison of `a` with `c` is `min x y`, i.e.
    `-1` as soon as one of the two steps is strict and `0` when both are equalities. -/
theorem cmp_trans_num {a b c : GoVal} (ha : IsNum a) (hb : IsNum b) (hc : IsNum c)
    (ea : Exact a) (eb : Exact b) (ec : Exact c) {x y : Int}
    (h1 : compareGo a b = some x) (h2 : compareGo b c = some y) (hx : x ≤ 0) (hy : y ≤ 0) :
    compareGo a c = some (min x y) := by
  rw [cmp_num_math ha hb ea eb, signSub_eq_cmp3] at h1
  rw [cmp_num_math hb hc eb ec, signSub_eq_cmp3] at h2
  rw [cmp_num_math ha hc ea ec, signSub_eq_cmp3,
    cmp3_trans (Option.some.inj h1) (Option.some.inj h2) hx hy]

theorem cmp_trans_num_lt {a b c : GoVal} (ha : IsNum a) (hb : IsNum b) (hc : IsNum c)
    (ea : Exact a) (eb : Exact b) (ec : Exact c)
    (h1 : compareGo a b = some (-1)) (h2 : compareGo b c = some (-1)) :
    compareGo a c = some (-1) :=
  cmp_trans_num ha hb hc ea eb ec h1 h2 (by decide) (by decide)

theorem cmp_trans_num_eq {a b c : GoVal} (ha : IsNum a) (hb : IsNum b) (hc : IsNum c)
    (ea : Exact a) (eb : Exact b) (ec : Exact c)
    (h1 : compareGo a b = some 0) (h2 : compareGo b c = some 0) :
    compareGo a c = some 0 :=
  cmp_trans_num ha hb hc ea eb ec h1 h2 (by decide) (by decide)

/-- the descending direction, obtained from antisymmetry -/
theorem cmp_trans_num_ge {a b c : GoVal} (ha : IsNum a) (hb : IsNum b) (hc : IsNum c)
    (ea : Exact a) (eb : Exact b) (ec : Exact c) {x y : Int}
    (h1 : compareGo a b = some x) (h2 : compareGo b c = some y) (hx : 0 ≤ x) (hy : 0 ≤ y) :
    compareGo a c = some (max x y) := by
  rw [cmp_antisymm (cmp_trans_num hc hb ha ec eb ea (cmp_antisymm h2) (cmp_antisymm h1)
    (Int.neg_nonpos_of_nonneg hy) (Int.neg_nonpos_of_nonneg hx)),
    Int.neg_min_neg, Int.neg_neg, Int.max_comm]

example : compareGo (.int .int8 1) (.f32 ⟨3, 1⟩) = some (-1) ∧
    compareGo (.f32 ⟨3, 1⟩) (.int .uint64 2) = some (-1) ∧
    compareGo (.int .int8 1) (.int .uint64 2) = some (-1) := by decide +kernel

/-- Integers only: transitive for every magnitude (no exactness hypothesis). -/
theorem cmp_trans_int {k₁ k₂ k₃ : IntKind} {u v w : Int} {x y : Int}
    (h1 : compareGo (.int k₁ u) (.int k₂ v) = some x)
    (h2 : compareGo (.int k₂ v) (.int k₃ w) = some y) (hx : x ≤ 0) (hy : y ≤ 0) :
    compareGo (.int k₁ u) (.int k₃ w) = some (min x y) := by
  rw [cmp_int_math, sign_sub_eq_cmp3] at h1 h2 ⊢
  rw [cmp3_trans (Option.some.inj h1) (Option.some.inj h2) hx hy]

/-- The exactness hypothesis of `cmp_trans_num` cannot be dropped: `float64(2^53 + 1) = 2^53`, so
    Go answers `2^53 < 2^53 + 1`, `2^53 + 1 == 2^53.0` and `2^53 == 2^53.0`. -/
example :
    compareGo (.int .int 9007199254740992) (.int .int 9007199254740993) = some (-1) ∧
    compareGo (.int .int 9007199254740993) (.f64 ⟨9007199254740992, 0⟩) = some 0 ∧
    compareGo (.int .int 9007199254740992) (.f64 ⟨9007199254740992, 0⟩) = some 0 := by
  decide +kernel

/-- C15, transitive on strings. -/
theorem cmp_trans_str {a b c : String} {x y : Int}
    (h1 : compareGo (.str a) (.str b) = some x) (h2 : compareGo (.str b) (.str c) = some y)
    (hx : x ≤ 0) (hy : y ≤ 0) : compareGo (.str a) (.str c) = some (min x y) := by
  rw [cmp_str_lex] at h1 h2 ⊢
  exact congrArg some (cmp3_trans (Option.some.inj h1) (Option.some.inj h2) hx hy)

theorem cmp_trans_str_lt {a b c : String}
    (h1 : compareGo (.str a) (.str b) = some (-1)) (h2 : compareGo (.str b) (.str c) = some (-1)) :
    compareGo (.str a) (.str c) = some (-1) :=
  cmp_trans_str h1 h2 (by decide) (by decide)

example : compareGo (.str "10") (.str "9") = some (-1) ∧
    compareGo (.str "9") (.str "a") = some (-1) ∧
    compareGo (.str "10") (.str "a") = some (-1) := by decide +kernel

/-- Across kinds the comparison is NOT transitive (which is why the property says "within each
    kind"): `9 < 10` as numbers, `10 < "9"` as texts, yet `9 == "9"`. -/
example :
    compareGo (.int .int 9) (.int .int 10) = some (-1) ∧
    compareGo (.int .int 10) (.str "9") = some (-1) ∧
    compareGo (.int .int 9) (.str "9") = some 0 := by decide +kernel

/-! ## The protocol decoder -/

/-- the decoder only produces Go values: every decoded integer lies in the range of its type -/
theorem parseGoVal_wf {t v : String} {a : GoVal} (h : parseGoVal t v = some a) : a.WF = true := by
  cases a with
  | int k i =>
    unfold parseGoVal at h
    cases hk : intKindOfName? t with
    | some k' =>
      -- the integer branch answers only after `inRange`
      cases hi : parseInt? v with
      | none => rw [hk, hi] at h; cases h
      | some j =>
        rw [hk, hi] at h
        by_cases hr : k'.inRange j = true
        · cases h.symm.trans (if_pos hr); exact hr
        · cases h.symm.trans (if_neg hr)
    | none =>
      -- no other branch answers with an integer.  (`split at h` is slow here: it derives the
      -- equations of the decoder's `match`es.)
      rw [hk] at h
      refine absurd h ?_
      dsimp only
      repeat' apply iteInduction (motive := (· ≠ some (GoVal.int k i))) <;> intro _
      iterate 2
        cases parseNat? v.toList with
        | none => nofun
        | some b => intro h; obtain ⟨_, _, e⟩ := Option.map_eq_some_iff.mp h; cases e
      all_goals nofun
  | _ => rfl

example : parseGoVal "float64" "4609434218613702656" = some (.f64 ⟨3, 1⟩) := by decide +kernel
example : parseGoVal "float32" "1069547520" = some (.f32 ⟨3, 1⟩) := by decide +kernel
example : parseGoVal "uint8" "256" = none := by decide +kernel
example : parseGoVal "int8" "-128" = some (.int .int8 (-128)) := by decide +kernel
example : parseGoVal "float64" "9218868437227405312" = none := by decide +kernel   -- +Inf

end Genql.C15

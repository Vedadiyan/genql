/-
  C03 for the executable model, end to end: `SELECT g, COUNT(*) AS n FROM t WHERE p GROUP BY g`
  returns one row per distinct value of `g` among the rows that passed WHERE, in order of first
  appearance, with the number of those rows — i.e. the textbook grouping (`groupsSpec`) of the filtered
  table.  This connects the pure grouping theorems of `Properties/C03` (stated for the scan `scanG`)
  with the pipeline the driver runs (`prepare`: key reading with `readPath`, key comparison with Go
  `==`, the `*` member list, HAVING, the select list evaluated per group).
-/
import Genql.Properties.C03
import Genql.Properties.C04
import Genql.Properties.C01
import Genql.Proofs.ValEq
import Genql.Proofs.Exec
-- `evalSel_group`, `group_count_groups`, `group_count_sum` take the instance arguments of the `variable` line without using them;
-- their statements are kept as they stand
set_option linter.unusedSectionVars false
namespace Genql.GroupModel
open Genql Genql.C01 Genql.C03 Genql.C04
variable {N : Type} [Num N] [LawfulNum N] [DecidableEq N]

/-- values Go's `==` compares without panicking and by value -/
def IsScalar : Val N → Prop
  | .arr _ => False
  | .obj _ => False
  | _ => True

theorem goEq_scalar {a b : Val N} (ha : IsScalar a) (hb : IsScalar b) : goEq a b = .ok (decide (a = b)) := by
  -- `ha`, `hb` exclude slices and maps; two different constructors give `false` on both sides: left are the pairs of one
  -- constructor with an argument
  cases a <;> cases b <;> simp [IsScalar] at ha hb <;> simp [goEq]
  case bool.bool x y => cases x <;> cases y <;> rfl
  case str.str x y => by_cases h : x = y <;> simp [h]
  case num.num x y =>
    cases h : Num.eq x y
    · have : x ≠ y := fun e => by rw [(LawfulNum.eq_iff x y).mpr e] at h; cases h
      simp [this]
    · simp [(LawfulNum.eq_iff x y).mp h]

/-- the key row of `GROUP BY g` (`[]` on what is no object: not reached on a flat table).  The grouping column is the
    literal `"g"` in every statement of this file, `group_pipeline` included. -/
def gkey (r : Val N) : Row N :=
  match r with
  | .obj fs => [("g", Val.get fs "g")]
  | _ => []

/-- key rows as `ExecGroupBy` builds them: one entry, a scalar -/
def KeyShape (k : Row N) : Prop := ∃ v, IsScalar v ∧ k = [("g", v)]

theorem keyEq_shape {a b : Row N} (ha : KeyShape a) (hb : KeyShape b) : keyEq a b = .ok (keq a b) := by
  obtain ⟨va, hva, rfl⟩ := ha
  obtain ⟨vb, hvb, rfl⟩ := hb
  simp only [keyEq, List.foldlM_cons, List.foldlM_nil, Bool.not_true, Bool.false_eq_true, if_false, Val.get, lookup?,
    if_true, bind, Except.bind, pure, Except.pure, goEq_scalar hva hvb, keq]
  by_cases h : va = vb
  · simp [h]
  · have : ¬ ([("g", va)] : Row N) = [("g", vb)] := fun e => h (by simpa using e)
    simp [h, this]

/-- the model's `groupLoop` with Go's key comparison is the pure scan of C03/C04 on scalar keys -/
theorem groupLoop_on (keyOf : Val N → R (Row N)) (key : Val N → Row N) :
    ∀ (xs : List (Val N)) (acc : List (Row N × List (Val N))),
      (∀ x ∈ xs, keyOf x = .ok (key x) ∧ KeyShape (key x)) → (∀ g ∈ acc, KeyShape g.1) →
      groupLoop keyOf keyEq xs acc = .ok (scanG keq key xs acc) :=
  fun xs acc => groupLoop_pure_on keq key keyOf keyEq (fun _ _ => keyEq_shape) xs acc

omit [Num N] [LawfulNum N] in
theorem catalogue_key_shape {xs : List (Val N)} (hx : ∀ x ∈ xs, KeyShape (gkey x)) :
    ∀ g ∈ catalogue gkey xs, KeyShape g.1 := fun g hg => by
  obtain ⟨x, hx', hxk⟩ := List.mem_map.mp ((mem_catalogue gkey xs g).mp hg).1
  exact hxk ▸ hx x hx'

theorem evalSel_group (env : Env N) (ctx : Ctx N) (hh : ctx.hard = false) (hgr : ctx.grouped = true)
    (k : Row N) (hk : KeyShape k) (ms : List (Val N)) :
    evalSel env ctx (setKey "*" (.arr ms) (copyInto [] k))
        [.item (.col ["g"]) "g" "", .item (.aggr "count" []) "n" "n"] []
      = .ok [("g", Val.get k "g"), ("n", .num (Num.ofInt ms.length))] := by
  obtain ⟨v, hv, rfl⟩ := hk
  -- `g` is a column, read from the group row as a path
  rw [evalSel_item, evalExpr_col, hh, C19.ok_bind]
  show (readPath ["g"] _ >>= _) = _
  rw [readPath_single, C19.ok_bind,
    -- `COUNT(*)` is the length of `*`
    evalSel_item, evalExpr_count_star, hgr, if_pos rfl, starOf, lookup?_setKey_same]
  rfl

/-- the context of the grouped stages -/
def groupCtx (data : Row N) (src kept : List (Val N)) : Ctx N :=
  { data := data, hard := false, grouped := true, matched := kept, fromLen := src.length }

omit [Num N] [LawfulNum N] [DecidableEq N] in
theorem kept_key_shape {rows : List (Row N)} (f : Row N → Bool) (hg : ∀ r ∈ rows, IsScalar (Val.get r "g")) :
    ∀ x ∈ (rows.filter f).map Val.obj, KeyShape (gkey x) := by
  intro x hx
  obtain ⟨r, hr, rfl⟩ := List.mem_map.mp hx
  exact ⟨_, hg r (List.mem_filter.mp hr).1, rfl⟩

/-- **the grouped pipeline.**  `SELECT [DISTINCT] sel FROM t WHERE p GROUP BY g HAVING h ORDER BY … LIMIT …` over a flat
    table whose `g` values are scalars: the rows that passed WHERE are grouped as the textbook grouping
    (`catalogue` = `groupsSpec`), HAVING filters the GROUPS, the select list is evaluated once per kept group on
    `{g: key, *: members}`, then DISTINCT, ORDER BY and the window apply to the projected groups. -/
theorem group_pipeline (env : Env N) (data : Row N) (t : String) (rows : List (Row N)) (p : Expr N)
    (sel : List (SelItem N)) (having : Expr N) (distinct : Bool) (orderBy : List (List String × Bool))
    (limit offset : Option Nat) (hv : Row N × List (Val N) → Bool) (proj : Row N × List (Val N) → Row N)
    (ht : Val.get data t = .arr (rows.map Val.obj)) (hwt : ∀ r ∈ rows, WT r p)
    (hg : ∀ r ∈ rows, IsScalar (Val.get r "g"))
    (hhav : ∀ g ∈ catalogue gkey ((rows.filter (sem · p)).map Val.obj),
      (do rawBool (← evalExpr env (groupCtx data (rows.map Val.obj) ((rows.filter (sem · p)).map Val.obj))
        (groupRow g) having)) = .ok (hv g))
    (hsel : ∀ g ∈ catalogue gkey ((rows.filter (sem · p)).map Val.obj),
      evalSel env (groupCtx data (rows.map Val.obj) ((rows.filter (sem · p)).map Val.obj)) (groupRow g) sel [] =
        .ok (proj g)) :
    execQuery env data {} (.select [] distinct sel (.table [t] "" t) p [("g", ["g"])] having orderBy limit offset)
      = (do
          let groups := (catalogue gkey ((rows.filter (sem · p)).map Val.obj)).filter hv
          let projected := groups.map fun g => Val.obj (proj g)
          let deduped := if distinct then dedupBy valEq projected else projected
          let sorted ← sortRows orderBy deduped
          let out ← window sorted offset limit
          pure (Val.arr out)) := by
  have hshape := kept_key_shape (sem · p) hg
  rw [execQuery_flat ht (sem · p) (fun r hr => whereStage_sem (hwt r hr)),
    -- the scan with Go's `==` on the key rows is the pure scan `catalogue`, because the keys are scalars
    postStage_grouped
      (groupStage_groups (gs := catalogue gkey _) hv
        (groupLoop_on _ gkey _ [] (fun x hx => ⟨by
          obtain ⟨r, _, rfl⟩ := List.mem_map.mp hx
          simp [groupKeyOf, List.foldlM, readPath_single, gkey, setKey, bind, Except.bind, pure, Except.pure], hshape x hx⟩)
          (by simp)) hhav),
    selStage_map (ctx := postCtx data true _ _) groupRow proj (Bool.and_false _)
      fun g hgm => hsel g (List.mem_filter.mp hgm).1]
  exact tailStage_bind ..

/-- `SELECT g, COUNT(*) AS n FROM t WHERE p GROUP BY g`: every group of the kept rows with its size -/
theorem group_count_model (env : Env N) (data : Row N) (t : String) (rows : List (Row N)) (p : Expr N)
    (ht : Val.get data t = .arr (rows.map Val.obj)) (hwt : ∀ r ∈ rows, WT r p)
    (hg : ∀ r ∈ rows, IsScalar (Val.get r "g")) :
    execQuery env data {} (.select [] false [.item (.col ["g"]) "g" "", .item (.aggr "count" []) "n" "n"]
        (.table [t] "" t) p [("g", ["g"])] (.bool true) [] none none)
      = .ok (.arr ((catalogue gkey ((rows.filter (sem · p)).map Val.obj)).map fun g =>
          Val.obj [("g", Val.get g.1 "g"), ("n", .num (Num.ofInt g.2.length))])) := by
  rw [group_pipeline env data t rows p _ (.bool true) false [] none none (fun _ => true)
    (fun g => [("g", Val.get g.1 "g"), ("n", .num (Num.ofInt g.2.length))]) ht hwt hg (fun _ _ => rfl)
    (fun g hgm => evalSel_group env _ rfl rfl g.1
      (catalogue_key_shape (kept_key_shape (sem · p) hg) g hgm) g.2),
    List.filter_eq_self.mpr fun _ _ => rfl]
  simp [sortRows_nil, window_none, bind, Except.bind, pure, Except.pure]

/-- the groups of that result are the textbook grouping of the kept rows: distinct key rows in order of first
    appearance, each with exactly the rows carrying that key, in source order -/
theorem group_count_groups (rows : List (Row N)) (p : Expr N) :
    catalogue gkey ((rows.filter (sem · p)).map Val.obj) =
      groupsSpec keq gkey ((rows.filter (sem · p)).map (Val.obj (N := N))) :=
  catalogue_eq_groups gkey _

/-- conservation: the `n` column adds up to the number of rows that passed WHERE -/
theorem group_count_sum (rows : List (Row N)) (p : Expr N) :
    ((catalogue gkey ((rows.filter (sem · p)).map (Val.obj (N := N)))).map (·.2.length)).sum =
      (rows.filter (sem · p)).length := by
  rw [catalogue_eq_groups, count_conservation keq keq_equiv]
  simp

end Genql.GroupModel

/-! ### a concrete instance (a test of the statement's shape, not part of the proof) -/
namespace Genql.GroupModel
open Genql
def exData : Row Int := [("t", .arr [.obj [("g", .str "x"), ("b", .num 9)], .obj [("g", .str "y"), ("b", .num 8)],
  .obj [("g", .str "x"), ("b", .num 7)], .obj [("g", .str "z"), ("b", .num 0)]])]
def exEnv : Env Int := { dfx := .none, constants := none, failOn := none }
/-- `SELECT g, COUNT(*) AS n FROM t WHERE b > 0 GROUP BY g` -/
example : execQuery exEnv exData {} (.select [] false [.item (.col ["g"]) "g" "", .item (.aggr "count" []) "n" "n"]
      (.table ["t"] "" "t") (.cmp .gt (.col ["b"]) (.num 0)) [("g", ["g"])] (.bool true) [] none none)
    = .ok (.arr [.obj [("g", .str "x"), ("n", .num 2)], .obj [("g", .str "y"), ("n", .num 1)]]) := by decide +kernel
end Genql.GroupModel

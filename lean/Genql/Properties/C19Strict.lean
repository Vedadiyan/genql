/-
  Property C19, "a failure ANYWHERE": propagation through expression nesting.

  `StrictPos c p` lists the operand positions of every expression form that the evaluator always
  evaluates (both operands of AND / OR, NOT, both sides of every comparison, the three operands of
  BETWEEN, the left operand of arithmetic, unary and IS operands, every tuple element, every argument
  of a (synchronous) function call, the first WHEN condition of CASE).  `strict_step`: a failure of
  the operand — of its evaluation or of the `ValueOf` that follows — is a failure of the parent;
  `strict_in_error` is the closure over any depth of nesting.  The query-level corollaries put such
  an expression into WHERE and into the select list of a SELECT over a flat table.

  (Not strict, by the code's own semantics: the right operand of arithmetic when the left one is NULL,
  later WHEN arms, CASE values and ELSE.)
-/
import Genql.Properties.C19
import Genql.Proofs.ValEq
namespace Genql.C19
open Genql Genql.C01
variable {N : Type} [Num N]

/-- evaluation of `e` on `cur` fails -/
def EF (env : Env N) (ctx : Ctx N) (cur : Row N) (e : Expr N) : Prop := IsError (evalExpr env ctx cur e)

/-- evaluation of `e` followed by `ValueOf` fails (an unreadable column fails only here) -/
def VF (env : Env N) (ctx : Ctx N) (cur : Row N) (e : Expr N) : Prop :=
  IsError (evalExpr env ctx cur e >>= valueOf cur)

/-- … on the row and on the row with the navigation marker (comparisons evaluate their operands there) -/
def EF2 (env : Env N) (ctx : Ctx N) (cur : Row N) (e : Expr N) : Prop :=
  EF env ctx cur e ∧ EF env ctx (withMarker cur ctx.data) e

def VF2 (env : Env N) (ctx : Ctx N) (cur : Row N) (e : Expr N) : Prop :=
  VF env ctx cur e ∧ VF env ctx (withMarker cur ctx.data) e

theorem EF.toVF {env : Env N} {ctx : Ctx N} {cur : Row N} {e : Expr N} (h : EF env ctx cur e) : VF env ctx cur e :=
  isError_bind h

omit [Num N] in
theorem withMarker_idem (cur data : Row N) : withMarker (withMarker cur data) data = withMarker cur data := by
  unfold withMarker; exact setKey_setKey_same _ _ _

/-- the always-evaluated operand positions -/
inductive StrictPos : Expr N → Expr N → Prop
  | andL (a b : Expr N) : StrictPos a (.and a b)
  | andR (a b : Expr N) : StrictPos b (.and a b)
  | orL (a b : Expr N) : StrictPos a (.or a b)
  | orR (a b : Expr N) : StrictPos b (.or a b)
  | not (a : Expr N) : StrictPos a (.not a)
  | cmpL (op : CmpOp) (a b : Expr N) : StrictPos a (.cmp op a b)
  | cmpR (op : CmpOp) (a b : Expr N) : StrictPos b (.cmp op a b)
  | betweenX (isB : Bool) (x lo hi : Expr N) : StrictPos x (.between isB x lo hi)
  | betweenLo (isB : Bool) (x lo hi : Expr N) : StrictPos lo (.between isB x lo hi)
  | betweenHi (isB : Bool) (x lo hi : Expr N) : StrictPos hi (.between isB x lo hi)
  | binL (op : BinOp) (a b : Expr N) : StrictPos a (.bin op a b)
  | un (op : UnOp) (a : Expr N) : StrictPos a (.un op a)
  | is (op : IsOp) (a : Expr N) : StrictPos a (.is op a)
  | tuple (xs : List (Expr N)) (e : Expr N) (h : e ∈ xs) : StrictPos e (.tuple xs)
  | funcArg (name : String) (args : List (Expr N)) (e : Expr N) (h : e ∈ args) : StrictPos e (.func .none name args)
  | funcArgScoped (name : String) (args : List (Expr N)) (e : Expr N) (h : e ∈ args) :
      StrictPos e (.func .scoped name args)
  | caseCond (c v : Expr N) (rest : List (When N)) (els : Expr N) : StrictPos c (.case (.mk c v :: rest) els)

theorem evalArgs_vf {env : Env N} {ctx : Ctx N} {cur : Row N} {es : List (Expr N)} {e : Expr N} (he : e ∈ es)
    (hf : VF env ctx cur e) : IsError (evalArgs env ctx cur es) := by
  rw [evalArgs_eq_mapE]; exact mapE_isError he hf

/-- one step: a failing operand in a strict position fails the parent, on the row itself and on the
    row with the marker -/
theorem strict_step (env : Env N) (ctx : Ctx N) (hh : ctx.hard = false) (cur : Row N) {c p : Expr N} (hp : StrictPos c p)
    (hf : VF2 env ctx cur c) : EF2 env ctx cur p := by
  have hctx : ({ ctx with hard := false } : Ctx N) = ctx := by
    cases ctx; cases hh; rfl
  -- it suffices to show the one-row statement for a row whose marker row also fails
  suffices H : ∀ row : Row N, VF env ctx row c → VF env ctx (withMarker row ctx.data) c → EF env ctx row p from
    ⟨H cur hf.1 hf.2, H _ hf.2 (by rw [withMarker_idem]; exact hf.2)⟩
  intro row h1 h2
  unfold EF
  cases hp with
  | andL a b => rw [evalExpr_and]; exact isError_bind (isError_bind h1)
  | andR a b => rw [evalExpr_and]; exact isError_bind_right fun _ _ => isError_bind (isError_bind h1)
  | orL a b => rw [evalExpr_or]; exact isError_bind (isError_bind h1)
  | orR a b => rw [evalExpr_or]; exact isError_bind_right fun _ _ => isError_bind (isError_bind h1)
  | not a => rw [evalExpr_not]; exact isError_bind (isError_bind h1)
  | cmpL op a b => rw [evalExpr_cmp]; exact isError_bind h2
  | cmpR op a b => rw [evalExpr_cmp]; exact isError_bind_right fun _ _ => isError_bind_bind h2
  | betweenX isB x lo hi => rw [evalExpr_between]; exact isError_bind h1
  | betweenLo isB x lo hi =>
    -- `lo` is resolved only after `hi` has been evaluated
    rw [evalExpr_between]
    refine isError_bind_right fun _ _ => isError_bind_right fun f hf => isError_bind_right fun _ _ => ?_
    rw [VF, hf] at h1; exact isError_bind h1
  | betweenHi isB x lo hi =>
    rw [evalExpr_between]
    refine isError_bind_right fun _ _ => isError_bind_right fun _ _ => isError_bind_right fun t ht =>
      isError_bind_right fun _ _ => ?_
    rw [VF, ht] at h1; exact isError_bind h1
  | binL op a b => rw [evalExpr_bin]; exact isError_bind h1
  | un op a => rw [evalExpr_un]; exact isError_bind h1
  | is op a => rw [evalExpr_is]; exact isError_bind (isError_bind h1)
  | tuple xs e h => rw [evalExpr_tuple]; exact isError_bind (evalArgs_vf h h1)
  | funcArg name args e h =>
    rw [evalExpr_func env ctx row (.inl rfl), hctx]; exact isError_bind (evalArgs_vf h h1)
  | funcArgScoped name args e h =>
    rw [evalExpr_func env ctx row (.inr rfl), hctx]; exact isError_bind (evalArgs_vf h h1)
  | caseCond c' v rest els =>
    -- the condition is tested raw (`rs.(bool)`): whatever `ValueOf` cannot resolve is no boolean either
    rw [evalExpr_case, evalWhens_cons]
    refine isError_bind (isError_bind (isError_bind_right fun x hx => ?_))
    rw [VF, hx] at h1
    cases x with
    | v y => obtain ⟨_, h⟩ := h1; cases h
    | _ => exact ⟨_, rfl⟩

/-- nesting of strict positions, one level or more -/
inductive StrictIn : Expr N → Expr N → Prop
  | single {c p : Expr N} : StrictPos c p → StrictIn c p
  | step {c m p : Expr N} : StrictIn c m → StrictPos m p → StrictIn c p

/-- **a failing operand at any depth of strict nesting fails the whole expression** -/
theorem strict_in_error (env : Env N) (ctx : Ctx N) (hh : ctx.hard = false) (cur : Row N) {c p : Expr N} (h : StrictIn c p)
    (hf : VF2 env ctx cur c) : EF2 env ctx cur p := by
  induction h with
  | single hp => exact strict_step env ctx hh cur hp hf
  | step _ hp ih => exact strict_step env ctx hh cur hp ⟨ih.1.toVF, ih.2.toVF⟩

/-- … and hence the WHERE of a SELECT over a flat table: **the query returns an error, no rows** -/
theorem where_nested_fault_propagates (env : Env N) (data : Row N) (t : String) (rows : List (Row N))
    (c p : Expr N) (hin : StrictIn c p) (sel : List (SelItem N)) (ht : Val.get data t = .arr (rows.map Val.obj))
    (r : Row N) (hr : r ∈ rows)
    (hf : ∀ ctx : Ctx N, ctx.data = data → VF2 env ctx r c) :
    IsError (execQuery env data {} (.select [] false sel (.table [t] "" t) p [] (.bool true) [] none none)) :=
  execQuery_table_error ht hr
    (isError_bind (strict_in_error env _ rfl r hin (hf _ rfl)).1)

/-- the same for an expression of the select list: one failing operand on one row, and the query
    returns an error instead of rows with a patched-in NULL -/
theorem select_nested_fault_propagates [LawfulNum N] (env : Env N) (data : Row N) (t : String) (rows : List (Row N))
    (c e : Expr N) (hin : StrictIn c e) (key alias : String) (sel : List (SelItem N))
    (hm : SelItem.item e key alias ∈ sel) (hna : isAllAggr sel = false)
    (ht : Val.get data t = .arr (rows.map Val.obj)) (r : Row N) (hr : r ∈ rows)
    (hf : ∀ ctx : Ctx N, ctx.data = data → VF2 env ctx r c) :
    IsError (execQuery env data {} (.select [] false sel (.table [t] "" t) (.bool true) [] (.bool true) [] none none)) := by
  rw [execQuery_flat ht (fun _ => true) (fun _ _ => whereStage_true), List.filter_eq_self.mpr fun _ _ => rfl]
  refine isError_bind (postStage_ungrouped_error ?_)
  exact selStage_error (by rw [hna]; rfl) hr
    (evalSel_error env (postCtx data false _ _) r sel [] e key alias hm (strict_in_error env _ rfl r hin (hf _ rfl)).1)

/-- a failing query is a failing derived table … -/
theorem derived_from_error (env : Env N) (data : Row N) (sc : Scope) (inner : Query N) (alias : String)
    (h : IsError (execQuery env data sc inner)) : IsError (evalFrom env data sc (.derived inner alias)) :=
  isError_bind_bind h

/-- … and a failing FROM (whatever it is: table, derived table, join) fails the SELECT around it -/
theorem from_error_select (env : Env N) (data : Row N) (sc : Scope) (d : Bool) (sel : List (SelItem N))
    (frm : From N) (wh : Expr N) (gb : List (String × List String)) (hv : Expr N) (ob : List (List String × Bool))
    (lim off : Option Nat) (h : IsError (evalFrom env data sc frm)) :
    IsError (execQuery env data sc (.select [] d sel frm wh gb hv ob lim off)) := by
  rw [execQuery, prepare_select_nil]
  exact isError_bind (isError_bind h)

/-- **a failure in a derived table fails the outer query** -/
theorem derived_fault_propagates (env : Env N) (data : Row N) (sc : Scope) (inner : Query N) (alias : String)
    (d : Bool) (sel : List (SelItem N)) (wh : Expr N) (gb : List (String × List String)) (hv : Expr N)
    (ob : List (List String × Bool)) (lim off : Option Nat) (h : IsError (execQuery env data sc inner)) :
    IsError (execQuery env data sc (.select [] d sel (.derived inner alias) wh gb hv ob lim off)) :=
  from_error_select env data sc d sel _ wh gb hv ob lim off (derived_from_error env data sc inner alias h)

/-- **a failure in the left or in the right branch fails the UNION** (no rows of the other branch
    are returned) -/
theorem union_fault_propagates (env : Env N) (data : Row N) (sc : Scope) (l r : Query N) (d : Bool)
    (ob : List (List String × Bool)) (lim off : Option Nat)
    (h : IsError (execQuery env data sc l) ∨ IsError (execQuery env data sc r)) :
    IsError (execQuery env data sc (.union [] l r d ob lim off)) := by
  rw [execQuery, prepare_union_nil]
  refine isError_bind ?_
  rcases h with h | h
  · exact isError_bind (isError_bind h)
  · exact isError_bind_right fun _ _ => isError_bind (isError_bind h)

/-- **a failing row-scoped sub-query fails the expression that holds it** (and then, by
    `strict_in_error` and the clause theorems, the query) -/
theorem subquery_error (env : Env N) (ctx : Ctx N) (cur : Row N) (q : Query N)
    (h : IsError (execQuery env (withMarker cur ctx.data) {} q)) : EF env ctx cur (.subq q) :=
  isError_bind_bind h

/-- **EXISTS over a failing query fails** (it is not read as "no rows") -/
theorem exists_error (env : Env N) (ctx : Ctx N) (cur : Row N) (q : Query N)
    (h : IsError (prepare env (withMarker cur ctx.data) {} q)) : EF env ctx cur (.exists q) :=
  isError_bind h

/-- `x IN (SELECT …)` with a failing sub-query: the sub-query sits in a strict position of the comparison -/
theorem in_subquery_error (env : Env N) (ctx : Ctx N) (hh : ctx.hard = false) (cur : Row N) (x : Expr N) (q : Query N)
    (h1 : IsError (execQuery env (withMarker cur ctx.data) {} q)) :
    EF env ctx cur (.cmp .in_ x (.subq q)) :=
  (strict_step env ctx hh cur (.cmpR .in_ x (.subq q))
    ⟨(subquery_error env ctx cur q h1).toVF,
     (subquery_error env ctx _ q (by rw [withMarker_idem]; exact h1)).toVF⟩).1

/-- **a CTE whose body fails fails the query that reads it** (`WITH c AS (inner) SELECT … FROM c`) -/
theorem cte_fault_propagates (env : Env N) (data : Row N) (c : String) (inner : Query N) (d : Bool)
    (sel : List (SelItem N)) (alias : String) (wh : Expr N) (gb : List (String × List String)) (hv : Expr N)
    (ob : List (List String × Bool)) (lim off : Option Nat)
    (h : IsError (execQuery env data { bad := [], fwd := [c] } inner)) :
    IsError (execQuery env data {} (.select [.mk c inner] d sel (.table [c] alias c) wh gb hv ob lim off)) := by
  obtain ⟨e, he⟩ := h
  rw [execQuery, prepare_select]
  show IsError ((evalCtes env data { bad := [], fwd := [c] } [.mk c inner] >>= _) >>= _)
  rw [evalCtes_cons, he]
  -- the failed CTE is in `fwd` or in `bad`: reading the table `c` fails either way
  cases e <;> simp [evalCtes, evalFrom, bind, Except.bind, IsError]

-- `[Num N]` of the `variable` line is not used; the statement is kept as it stands
set_option linter.unusedSectionVars false in
/-- **the nested-loop join fails if ON fails on any (left key group, right key group)** — whatever
    matched before it -/
theorem nestedRun_on_error (on : Row N → R Bool) (inner : Bool) (ri : String) (l r : List (CatEntry N))
    (le re : CatEntry N) (hl : le ∈ l) (hr : re ∈ r)
    (h : IsError (on (copyInto (copyInto [] le.keyMap) re.keyMap))) : IsError (nestedRun on inner ri l r) := by
  unfold nestedRun
  apply isError_bind
  apply mapE_isError hl
  unfold nestedMatch
  apply isError_bind
  apply mapE_isError hr
  unfold nestedPair
  exact isError_bind h

/-- **a sort key that cannot be read on ONE row fails the sort** (with at least two rows — with fewer the
    comparator never runs, in Go as in the model): no partially sorted result -/
theorem sortRows_key_error (orderBy : List (List String × Bool)) (rows : List (Val N)) (h2 : 2 ≤ rows.length)
    (r : Val N) (hr : r ∈ rows) (k : List String × Bool) (hk : k ∈ orderBy) (h : IsError (readPath k.1 r)) :
    IsError (sortRows orderBy rows) := by
  rw [sortRows_eq, List.isEmpty_eq_false_iff.mpr (List.ne_nil_of_mem hk), decide_eq_false (by omega), if_neg (by decide)]
  apply isError_bind
  apply mapE_isError hr
  apply isError_bind
  exact mapE_isError hk (isError_bind h)

/-! ### non-vacuity: a concrete nested fault -/

/-- `NOT (x < VF_FAIL(a))`: the operand is two strict levels down -/
example (a : Expr N) : StrictIn (Expr.func .none "vf_fail" [a])
    (Expr.not (Expr.cmp .lt (Expr.col ["x"]) (Expr.func .none "vf_fail" [a]))) :=
  .step (.single (.cmpR _ _ _)) (.not _)

example :
    execQuery (N := Int) { dfx := .none, constants := none, failOn := some (.num 2) }
      [("t", .arr [.obj [("a", .num 1)], .obj [("a", .num 2)], .obj [("a", .num 3)]])] {}
      (.select [] false [.item (.not (.cmp .lt (.num 0) (.func .none "vf_fail" [.col ["a"]]))) "f" ""]
        (.table ["t"] "" "t") (.bool true) [] (.bool true) [] none none) = .error .error := by decide +kernel

end Genql.C19

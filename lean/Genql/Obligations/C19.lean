/-
  Obligation of C19 on the regenerated facts: no site of the shapes "`if err != nil { return …, nil }`",
  "error checked and dropped", "error overwritten before it is tested" exists in the non-test sources.
-/
import Genql.Generated.Facts
namespace Genql.Obligations.C19
open Genql.Generated

theorem errors_not_swallowed : swallowSites = [] := rfl

end Genql.Obligations.C19

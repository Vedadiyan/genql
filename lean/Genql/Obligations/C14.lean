/-
  Obligations of C14 on the regenerated facts: the order of the wait-group events in `FunExpr`
  (async / spinasync) and `execAndPostProcess` has the shape `AsyncShape`, hence the protocol
  hypotheses hold of it; what the goroutines do when the function panics; SPIN stays off the wait
  group; which functions forward a nested wait; the `immediate` flags of the registry.
-/
import Genql.Generated.Facts
import Genql.Properties.C14
namespace Genql.Obligations.C14
open Genql.Async Genql.Generated

/-- ASYNC: `wg.Add(1)` precedes `go`; the goroutine invokes, stores its slot and ends with
    `wg.Done()`; `wg.Wait()` precedes every post-processor -/
theorem async_shape : AsyncShape asyncEvents = true := by decide +kernel
theorem spinasync_shape : AsyncShape spinasyncEvents = true := by decide +kernel

/-- when the called function panics, the goroutine first recovers (ASYNC: stores the error its post
    processor will return; SPINASYNC: reports it) and only then signals the wait group — so the waiter,
    and every post processor after it, observes the stored outcome (`wg.Done` happens-before `Wait`
    returns; nothing the goroutine does after `Done` is ordered before the reader) -/
theorem unwind_done_last :
    asyncUnwind = ["recover", "wgDone"] ∧ spinasyncUnwind = ["recover", "wgDone"] ∧ spinUnwind = ["recover"] :=
  ⟨rfl, rfl, rfl⟩

/-- SPIN starts a goroutine without touching the wait group -/
theorem spin_not_waited : spinEvents.contains .wgAdd = false ∧ spinEvents.contains .wgDone = false := by decide +kernel

/-- sub-queries, derived tables, EXISTS, and the copies made for join sides / inner arrays
    (`Query.adopt`, D47) forward their wait to the enclosing query -/
theorem nested_wait_forwarded_sites :
    nestedForwarders = ["BuildFromAliasedTable", "ExistExpr", "Query.adopt", "SubqueryExpr"] := rfl

/-- the `immediate` flags of the registry: exactly these functions reject ASYNC / SPIN / SPINASYNC -/
theorem immediate_table :
    (registry.filter (·.2.1)).map (·.1) =
      ["avg", "constant", "count", "daterange", "fuse", "getvar", "max", "min", "raise", "raise_when",
       "report", "report_when", "setvar", "sum", "timestamp", "to_lower", "to_upper"] := rfl

/-- consequence of the shape (theorem `asyncShape_protocol`): the protocol hypotheses hold of the
    extracted event order -/
theorem async_protocol : Genql.C14.ProtocolHyps asyncEvents := Genql.C14.asyncShape_protocol _ async_shape
theorem spinasync_protocol : Genql.C14.ProtocolHyps spinasyncEvents := Genql.C14.asyncShape_protocol _ spinasync_shape

end Genql.Obligations.C14

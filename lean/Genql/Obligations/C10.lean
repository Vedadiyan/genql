/-
  Obligations of C10 on the regenerated facts: every explicit `panic(`, every single-value type
  assertion and every `go` statement in the non-test sources is listed here with the recover
  boundary that guards it; every exported entry point that runs query code recovers.
-/
import Genql.Generated.Facts
namespace Genql.Obligations.C10
open Genql.Generated

/-- `(*lr).(Map)` / `(*rr).(Map)` in the two match functions run at build time, inside `New`'s recover
    (sequential variants) or inside the recovered worker goroutine (parallel variants);
    `rs.([]any)` in `SelectMany` is preceded by a comma-ok test of the same value;
    `Sort` panics inside `sort.Slice` only to unwind to its own `defer recover` -/
theorem panic_sites_guarded :
    panicSites = ["Join.HashJoinMatchFunc:assert#3", "Join.JoinMatchFunc:assert#3", "SelectMany:assert#1", "Sort:panic#1"] := rfl

/-- every goroutine either recovers (user functions, join workers) or only forwards a wait group -/
theorem goroutines_guarded :
    goSites = ["BuildFromAliasedTable:go-forwarder#1", "ExistExpr:go-forwarder#1", "FunExpr:go-recovered#3",
               "Join.ParallelHashJoinFunc:go-recovered#1", "Join.ParallelJoinFunc:go-recovered#1",
               "Query.adopt:go-forwarder#1", "SubqueryExpr:go-forwarder#1"] := rfl

/-- the API entry points and the executor recover: `New` (build-time code incl. joins, unions, CTE
    registration), `Exec` (post-processors), `exec` (row evaluation), `Sort` -/
theorem recover_boundaries : recoverFuncs = ["New", "Query.Exec", "Query.exec", "Sort"] := rfl

end Genql.Obligations.C10

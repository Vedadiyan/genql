/-
  Obligation of C01 / C02 on the regenerated operator tables (`switch expr.Operator` of `ComparisonExpr` and
  `BinaryExpr`, extracted by go/ast + go/printer): every comparison case of the Go source tests the result of
  `compare.Compare` exactly as the model's `cmpDispatch` does, and every arithmetic case computes what the
  model's `binArith` is written after.  A swapped or weakened test (`>= 0` for `== 1`, …) changes the table.
-/
import Genql.Generated.Facts
import Genql.Model.Eval
namespace Genql.Obligations.C01
open Genql Genql.Generated

/-- what the model does with the result `c` of the comparison, per operator -/
def modelCmp : CmpOp → Int → Bool
  | .eq, c => c = 0
  | .ne, c => c ≠ 0
  | .gt, c => c = 1
  | .ge, c => c ≥ 0
  | .lt, c => c = -1
  | .le, c => c ≤ 0
  | _, _ => false

variable {N : Type} [Num N]

/-- `cmpDispatch` is `modelCmp` of the comparison result, for the six ordering operators -/
theorem cmpDispatch_modelCmp (op : CmpOp) (hop : op ∈ [CmpOp.eq, .ne, .gt, .ge, .lt, .le])
    (lv : Val N) (r : IVal N) (rv : Val N) :
    cmpDispatch op lv r rv = (do let c ← compareVal lv rv; pure (modelCmp op c)) := by
  simp only [List.mem_cons, List.not_mem_nil, or_false] at hop
  rcases hop with rfl | rfl | rfl | rfl | rfl | rfl <;> simp [cmpDispatch, modelCmp]

/-- the meaning of the test a Go case performs on `compare.Compare(leftValue, rightValue)` -/
def goTest (s : String) : Option (Int → Bool) :=
  if s = "compare.Compare(leftValue, rightValue) == 0" then some (fun c => c = 0)
  else if s = "compare.Compare(leftValue, rightValue) != 0" then some (fun c => c ≠ 0)
  else if s = "compare.Compare(leftValue, rightValue) == 1" then some (fun c => c = 1)
  else if s = "compare.Compare(leftValue, rightValue) >= 0" then some (fun c => c ≥ 0)
  else if s = "compare.Compare(leftValue, rightValue) == -1" then some (fun c => c = -1)
  else if s = "compare.Compare(leftValue, rightValue) <= 0" then some (fun c => c ≤ 0)
  else none

def opOfLabel (s : String) : Option CmpOp :=
  if s = "sqlparser.EqualOp" then some .eq else if s = "sqlparser.NotEqualOp" then some .ne
  else if s = "sqlparser.GreaterThanOp" then some .gt else if s = "sqlparser.GreaterEqualOp" then some .ge
  else if s = "sqlparser.LessThanOp" then some .lt else if s = "sqlparser.LessEqualOp" then some .le
  else none

/-- one table row agrees with the model on every possible comparison result -/
def rowAgrees (row : String × String) : Bool :=
  match opOfLabel row.1, goTest row.2 with
  | some op, some f => [(-1 : Int), 0, 1].all fun c => f c == modelCmp op c
  | _, _ => false

/-- **the six ordering cases of `ComparisonExpr` test the comparison result as the model does** -/
theorem comparison_cases_agree : (opTableComparisonExpr.take 6).all rowAgrees = true := by decide +kernel

/-- the case labels, in source order (LIKE / NOT LIKE / IN / NOT IN follow the six ordering operators) -/
theorem comparison_case_labels :
    opTableComparisonExpr.map (·.1) =
      ["sqlparser.EqualOp", "sqlparser.NotEqualOp", "sqlparser.GreaterThanOp", "sqlparser.GreaterEqualOp",
       "sqlparser.LessThanOp", "sqlparser.LessEqualOp", "sqlparser.LikeOp", "sqlparser.NotLikeOp", "sqlparser.InOp",
       "sqlparser.NotInOp"] := rfl

/-- the arithmetic cases of `BinaryExpr`: float arithmetic for + - * /, `math.Mod` for %, and the integer operators
    through `int64` (what `binArith` models, incl. the exact `fmod`) -/
theorem binary_cases :
    opTableBinaryExpr =
      [("sqlparser.PlusOp", "*leftValue + *rightValue"),
       ("sqlparser.MinusOp", "*leftValue - *rightValue"),
       ("sqlparser.MultOp", "*leftValue * *rightValue"),
       ("sqlparser.DivOp", "*leftValue / *rightValue"),
       ("sqlparser.IntDivOp", "float64(int64(*leftValue) / int64(*rightValue))"),
       ("sqlparser.ModOp", "math.Mod(*leftValue, *rightValue)"),
       ("sqlparser.BitAndOp", "float64(int64(*leftValue) & int64(*rightValue))"),
       ("sqlparser.BitOrOp", "float64(int64(*leftValue) | int64(*rightValue))"),
       ("sqlparser.BitXorOp", "float64(int64(*leftValue) ^ int64(*rightValue))"),
       ("sqlparser.ShiftLeftOp", "float64(int64(*leftValue) << int64(*rightValue))"),
       ("sqlparser.ShiftRightOp", "float64(int64(*leftValue) >> int64(*rightValue))")] := rfl

end Genql.Obligations.C01

/-
  Obligation of C17 on the regenerated facts: the statements of `New` that rewrite the query text and parse it.
  `Scan.applyDialect` is written after exactly these lines: the quote rewrite reads the caller's text and replaces it
  (`query = rs`), the array rewrite reads THAT text and replaces it again, and the parser receives the result; each
  rewrite's error is returned as `New`'s error.
-/
import Genql.Generated.Facts
namespace Genql.Obligations.C17
open Genql.Generated

theorem dialect_rewrite_lines :
    decisionsDialect =
      ["if q.options.postgresEscapingDialect { rs, err := DoubleQuotesToBackTick(query) if err != nil { return nil, err } query = rs }",
       "if q.options.idomaticArrays { rs, err := FixIdiomaticArray(query) if err != nil { return nil, err } query = rs }",
       "statement, err := Parse(query)"] := rfl

end Genql.Obligations.C17

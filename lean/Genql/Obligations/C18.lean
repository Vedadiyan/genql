/-
  Obligation of C18 on the regenerated registry (`init()` of functions.go): the arity the model's
  `Guard` table assigns to a function is the arity the Go body passes to `Guard(n, args)` as its first
  statement (and returns the error of).
-/
import Genql.Generated.Facts
import Genql.Model.Builtins
namespace Genql.Obligations.C18
open Genql Genql.Generated

/-- every function of the model's arity table is registered, with the same `Guard` count -/
theorem arity_table_matches_registry :
    arities.all (fun p => registry.any (fun r => r.1 == p.1 && r.2.2 == some p.2)) = true := by decide +kernel

/-- the functions registered in Go with a `Guard` that the arity table does not hold: CONSTANT (evaluator),
    ENCODE / DECODE / HASH (Model/Codec), GETVAR / SETVAR (Model/Vars); TIMESTAMP is not modelled -/
theorem guarded_outside_model :
    (registry.filter (fun r => r.2.2.isSome && !(arities.any (fun p => p.1 == r.1)))).map (·.1) =
      ["constant", "decode", "encode", "getvar", "hash", "setvar", "timestamp"] := by decide +kernel

theorem unguarded : (registry.filter (fun r => r.2.2.isNone)).map (·.1) = ["array", "concat", "count"] := by decide +kernel

end Genql.Obligations.C18

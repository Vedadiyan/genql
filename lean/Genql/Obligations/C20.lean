/-
  Obligation of C20 on the regenerated statements of `GetVarFunc` / `SetVarFunc`: the key is the `%v` text of the first
  argument; GETVAR returns the stored value or NULL when the key is absent (`Vars.step (.get k) = lookup?`); SETVAR
  stores the second argument under the key unconditionally (`setKey`) and returns the omit marker (no column); both
  take the variable map's lock for the whole access (C13's `vars_well_locked` is about the same lines).
-/
import Genql.Generated.Facts
namespace Genql.Obligations.C20
open Genql.Generated

theorem vars_function_lines :
    decisionsVars =
      ["GetVarFunc: err := Guard(1, args)",
       "GetVarFunc: if err != nil { return nil, err }",
       "GetVarFunc: key := fmt.Sprintf(\"%v\", args[0])",
       "GetVarFunc: query.options.varsMut.RLock()",
       "GetVarFunc: defer query.options.varsMut.RUnlock()",
       "GetVarFunc: value, ok := query.options.vars[key]",
       "GetVarFunc: if !ok { return nil, nil }",
       "GetVarFunc: return value, nil",
       "SetVarFunc: err := Guard(2, args)",
       "SetVarFunc: if err != nil { return nil, err }",
       "SetVarFunc: key := fmt.Sprintf(\"%v\", args[0])",
       "SetVarFunc: value := args[1]",
       "SetVarFunc: query.options.varsMut.Lock()",
       "SetVarFunc: defer query.options.varsMut.Unlock()",
       "SetVarFunc: query.options.vars[key] = value",
       "SetVarFunc: return Ommit(true), nil"] := rfl

end Genql.Obligations.C20

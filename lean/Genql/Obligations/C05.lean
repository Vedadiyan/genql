/-
  Obligation of C05 on the regenerated decision lists: the statements of the `sort.go` comparator and of the
  LIMIT / OFFSET window at the end of `exec()`, as normalised source text in order.  The model's `lessKeys`
  and `window` are written after exactly these lines (mapping in the comments); any change to a guard, to the
  direction constants, to the tie rule or to the clamp makes the list differ.
-/
import Genql.Generated.Facts
namespace Genql.Obligations.C05
open Genql.Generated

/-- `Compare(slice, i, j, orderBy)`:
    no keys left ⇒ false (`lessKeys [] = false`); the flag of the first key chooses the expected comparison result
    (`-1` when `.Value`, i.e. ASC); first key NULL ⇒ false, second NULL ⇒ true (NULLs last in both directions);
    a tie recurses on the remaining keys; otherwise `res == direction`. -/
theorem sort_comparator_lines :
    decisionsSortCompare =
      ["if len(orderBy) == 0 { return false, nil }",
       "key := orderBy[0].Key",
       "direction := 1",
       "if orderBy[0].Value { direction = -1 }",
       "first, err := ExecReader(slice[i], key)",
       "if err != nil { return false, err }",
       "if first == nil { return false, nil }",
       "second, err := ExecReader(slice[j], key)",
       "if err != nil { return false, err }",
       "if second == nil { return true, nil }",
       "res := compare.Compare(first, second)",
       "if res == 0 { return Compare(slice, i, j, orderBy[1:]) }",
       "return res == direction, nil"] := rfl

/-- the window: `offset` defaults to 0 and `limit` to `len(rs)`; an offset at or past the end yields no rows; the
    limit is clamped by a SUBTRACTION (`len(rs)-offset`, never `offset+limit`, which could overflow) before the
    slice expression — the model's `window`, proved equal to `drop`/`take` in `window_exact`. -/
theorem window_lines :
    decisionsWindow =
      ["offset := 0",
       "if query.offsetDefinition != -1 { offset = query.offsetDefinition }",
       "limit := len(rs)",
       "if query.limitDefinition != -1 { limit = query.limitDefinition }",
       "if offset >= len(rs) { rs = nil goto FINALIZE }",
       "if limit > len(rs)-offset { limit = len(rs) - offset }",
       "rs = rs[offset : offset+limit : offset+limit]"] := rfl

/-- **the stage order of `exec()`** (engine-level calls in source order): the dual shortcut (`ExecSelect` on the single
    scoped row), then per element of the source either the recursion into an inner array (`copy.exec`, `query.adopt`) or
    `ExecWhere`; then `ExecGroupBy` → `ExecSelect` → (slot resolution) → `ExecDistinct` → `ExecOrderBy` → the window
    slice.  This is the order `Pipeline.select_pipeline` states for the model: WHERE → select list → DISTINCT → ORDER BY →
    window, each on the whole output of the previous stage. -/
theorem exec_stage_order :
    decisionsStages =
      ["ExecSelect", "copy.exec", "query.adopt", "ExecWhere", "ExecGroupBy", "ExecSelect", "resolveAsyncSlots",
       "ExecDistinct", "ExecOrderBy", "slice:rs[offset : offset+limit : offset+limit]"] := rfl

end Genql.Obligations.C05

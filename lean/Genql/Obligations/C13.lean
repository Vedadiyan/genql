/-
  Obligations of C13 on the facts regenerated from /repo (Genql/Generated/Facts.lean): `WLpaths`, the hypothesis of the
  theorems of Genql.Properties.C13, on the extracted lock / access paths (`execReader_race_free` states the instance of
  `well_locked_race_free`); the extracted tables of package-level variables, their users and writers, as they are.
-/
import Genql.Generated.Facts
import Genql.Properties.C13
namespace Genql.Obligations.C13
open Genql.Conc Genql.Generated

/-- every control-flow path of `ExecReader` touches `cache` only while holding `mut`, never
    re-locks, and releases the lock on exit (incl. the early return on a parse error) -/
theorem execReader_well_locked : WLpaths execReaderGuard execReaderPaths = true := by decide +kernel

/-- no other function touches the selector cache -/
theorem cache_only_in_execReader : cacheAccessors = ["ExecReader", "init"] := rfl

/-- hence (theorem `well_locked_race_free`): any number of goroutines each running ONE path of
    `ExecReader` (a single call), under every interleaving, never reach a data race on the cache -/
theorem execReader_race_free (prog : Nat → List Instr) (h : ∀ t, prog t ∈ execReaderPaths) :
    ∀ s, Reach (start prog) s → ¬ Race execReaderGuard s :=
  Genql.C13.well_locked_race_free _ _ fun t => List.all_eq_true.mp execReader_well_locked _ (h t)

/-- the worker goroutines of the PARALLEL joins append to the shared result slice and record the
    first error only under the function-local mutex.  (For these and for `vars_well_locked` only `WLpaths` is checked;
    the instance of `well_locked_race_free` is not stated.) -/
theorem parallel_join_well_locked : WLpaths parallelJoinGuard Generated.parallelJoinWorkerPaths = true := by decide +kernel
theorem parallel_hash_join_well_locked : WLpaths parallelJoinGuard Generated.parallelHashJoinWorkerPaths = true := by decide +kernel

def varsGuard (x : String) : Option String := if x = "vars" then some "varsMut" else none

/-- GETVAR / SETVAR access the variable map only under `varsMut`.  GETVAR's `RLock` / `RUnlock` are extracted as
    `.lock` / `.unlock`: two readers at once are not in the model, and are no race. -/
theorem vars_well_locked : WLpaths varsGuard (getVarFuncPaths ++ setVarFuncPaths) = true := by decide +kernel

/-- the process-wide registries are written only by the `Register*` functions, the cache only by `ExecReader` and
    `init`; no other package-level variable is written at all.  (Who calls the exported `Register*` is not extracted.) -/
theorem registries_init_only :
    packageVarWriters =
      [("cache", ["ExecReader", "init"]),
       ("functions", ["RegisterExternalFunction", "RegisterFunction"]),
       ("immediateFunctions", ["RegisterExternalFunction", "RegisterFunction", "RegisterImmediateFunction"]),
       ("topLevelFunctions", ["RegisterTopLevelFunction"])] := rfl

/-- every function that so much as mentions a package-level variable: the compiled tokenizer patterns
    (read-only after `init`), the registries (read by the evaluator, written by `Register*`), the
    selector cache and its mutex.  A new shared variable (a reused hasher, buffer, counter …) or a new
    user of an existing one changes this table. -/
theorem package_vars_users :
    packageVarUsers =
      [("arrayPattern", ["ParseArray"]),
       ("cache", ["ExecReader", "init"]),
       ("fullPattern", ["ParseSelector"]),
       ("functionNamePattern", ["ParseSelector"]),
       ("functions", ["AggrFunExpr", "FunExpr", "RegisterExternalFunction", "RegisterFunction"]),
       ("immediateFunctions", ["IsImmediateFunction", "RegisterExternalFunction", "RegisterFunction", "RegisterImmediateFunction"]),
       ("mut", ["ExecReader"]),
       ("pipePattern", ["ParsePipe"]),
       ("topLevelFunctions", ["ReaderExecutor", "RegisterTopLevelFunction"])] := rfl

/-- the sub-packages (`compare`, `sanitizer`) hold no package-level variable at all: everything they
    compute with is local to the call, so concurrent comparisons / sanitisations share nothing -/
theorem sub_packages_stateless : subPackageVars = [] := rfl

/-- the functions that evaluate a parsed selector (everything in `selector.go` below the parser) -/
def selectorEvaluators : List String :=
  ["SelectDimension", "SelectMany", "Unwind", "SelectObject", "ExecReader", "ReaderExecutor", "Reader", "Mix", "MixArray",
   "MixObject", "Distinct", "IndexSelector.GetIndex", "IndexSelector.GetRange", "IndexSelector.GetType",
   "PipeSelector.GetKey", "PipeSelector.GetType"]

/-- **a cached parse result is never written**: `cache_is_parse_graph` (the cache is a sub-graph of `parse`, so every
    interleaving returns the stand-alone result) needs the cached values to be immutable.  Of all write sites into memory a
    function did not allocate itself, the selector evaluators own exactly one — the insertion into the cache map, under the
    mutex; none of them assigns through a parsed selector (an `IndexSelector`'s range, a key list).
    `writeSiteFuncs` is the function of each entry of `writeSites`, position by position. -/
theorem cached_parse_results_never_written :
    ((writeSites.zip writeSiteFuncs).filter (fun p => selectorEvaluators.contains p.2)).map (·.1) =
      ["ExecReader:index:cache"] := by
  decide +kernel

end Genql.Obligations.C13

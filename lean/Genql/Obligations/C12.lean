/-
  Obligations of C12 on the regenerated facts: the statements that decide what reaches an output row.

  `value_of_cases` — the type switch of `ValueOf`: a `ColumnName` is read from the current row (and a lazy CTE it names is
  evaluated), a `NeutalString` becomes a string, a `*float64` its value (NULL for the typed nil), anything else passes
  through: the model's `valueOf`.

  `select_item_lines` — `SelectExpr`, statement by statement: `*` copies the row's entries and schedules the removal of the
  `<-` marker; for an item the value is evaluated, an `Ommit` contributes nothing, `ValueOf` unwraps, a `Fuse` is blended
  key by key (never the marker), the name is the alias or the column's name, an async slot (`*any`) is resolved by a post
  processor after the wait, and the value is stored under the name: the model's `evalSel`.
-/
import Genql.Generated.Facts
namespace Genql.Obligations.C12
open Genql.Generated

theorem value_of_cases :
    decisionsValueOf =
      ["case ColumnName: { rs, err := ExecReader(current, string(value)) if err != nil { return nil, err } if cte, ok := rs.(CteEvaluation); ok { return cte() } return rs, nil }",
       "case NeutalString: { return string(value), nil }",
       "case *float64: { if value == nil { return nil, nil } return *value, nil }",
       "case default: { return value, nil }"] := rfl

theorem select_item_lines :
    decisionsSelectExpr =
      ["*sqlparser.StarExpr: for key, value := range current { if _, ok := value.(CteEvaluation); ok { continue } query.postProcessors = append(query.postProcessors, func() error { delete(data, \"<-\") return nil }) data[key] = value }",
       "*sqlparser.AliasedExpr: value, err := Expr(query, current, expr.Expr, opts...)",
       "*sqlparser.AliasedExpr: if err != nil { return nil, err }",
       "*sqlparser.AliasedExpr: if _, ok := value.(Ommit); ok { continue }",
       "*sqlparser.AliasedExpr: valueRaw, err := ValueOf(query, current, value)",
       "*sqlparser.AliasedExpr: if err != nil { return nil, err }",
       "*sqlparser.AliasedExpr: if fuse, ok := valueRaw.(Fuse); ok { prefix := expr.As.String() for key, value := range fuse { if key == \"<-\" { continue } if len(prefix) > 0 { data[fmt.Sprintf(\"%s.%s\", prefix, key)] = value continue } data[key] = value } continue }",
       "*sqlparser.AliasedExpr: name := expr.ColumnName()",
       "*sqlparser.AliasedExpr: if len(expr.As.String()) > 0 { name = expr.As.String() }",
       "*sqlparser.AliasedExpr: if valueRaw, ok := valueRaw.(*any); ok { query.postProcessors = append(query.postProcessors, func() error { if err != nil { return err } value := *valueRaw for { x, ok := value.(*any) if !ok { break } value = *x } data[name] = value return nil }) }",
       "*sqlparser.AliasedExpr: data[name] = valueRaw"] := rfl

end Genql.Obligations.C12

/-
  Obligation of C04 on the regenerated decision lists of `join.go`: which loop a join runs (`Exec`), on which
  sides (the swap for RIGHT joins), and sequentially or in parallel.  The model's `execJoin` is written after
  exactly these lines: STRAIGHT_JOIN → nested loop, inner only, no swap; otherwise swap unless `IsLeftJoin`,
  hash join iff `hashJoinAnalyze`, else nested loop; the PARALLEL variants differ only in scheduling
  (`parallel_schedule_independent`).
-/
import Genql.Generated.Facts
namespace Genql.Obligations.C04
open Genql.Generated

theorem join_strategy_lines :
    decisionsJoin =
      ["Join.Exec: switch joinType := j.joinType; { case joinType.IsStraightJoin(): { return j.StraightJoin() } case hashJoinAnalyze(j.leftIdent, j.rightIdent, j.joinExpr): { return j.HashJoin() } default: { return j.Join() } }",
       "Join.StraightJoin: if !j.joinType.IsInner() { return nil, EXPECTATION_FAILED.Extend(\"straight join cannot be left or right joins\") }",
       "Join.StraightJoin: l, err := ToCatalog(j.left, j.leftIdent, j.rightIdent, j.joinExpr)",
       "Join.StraightJoin: if err != nil { return nil, err }",
       "Join.StraightJoin: r, err := ToCatalog(j.right, j.rightIdent, j.leftIdent, j.joinExpr)",
       "Join.StraightJoin: if err != nil { return nil, err }",
       "Join.StraightJoin: if !j.joinType.IsParallel() { return j.JoinFunc(l, r) }",
       "Join.StraightJoin: return j.ParallelJoinFunc(l, r)",
       "Join.Join: if !j.joinType.IsLeftJoin() { j.left, j.right = j.right, j.left j.leftIdent, j.rightIdent = j.rightIdent, j.leftIdent }",
       "Join.Join: l, err := ToCatalog(j.left, j.leftIdent, j.rightIdent, j.joinExpr)",
       "Join.Join: if err != nil { return nil, err }",
       "Join.Join: r, err := ToCatalog(j.right, j.rightIdent, j.leftIdent, j.joinExpr)",
       "Join.Join: if err != nil { return nil, err }",
       "Join.Join: if !j.joinType.IsParallel() { return j.JoinFunc(l, r) }",
       "Join.Join: return j.ParallelJoinFunc(l, r)",
       "Join.HashJoin: if !j.joinType.IsLeftJoin() { j.left, j.right = j.right, j.left j.leftIdent, j.rightIdent = j.rightIdent, j.leftIdent }",
       "Join.HashJoin: l, err := ToCatalog(j.left, j.leftIdent, j.rightIdent, j.joinExpr)",
       "Join.HashJoin: if err != nil { return nil, err }",
       "Join.HashJoin: r, err := ToCatalog(j.right, j.rightIdent, j.leftIdent, j.joinExpr)",
       "Join.HashJoin: if err != nil { return nil, err }",
       "Join.HashJoin: if !j.joinType.IsParallel() { return j.HashJoinFunc(l, r) }",
       "Join.HashJoin: return j.ParallelHashJoinFunc(l, r)"] := rfl

end Genql.Obligations.C04

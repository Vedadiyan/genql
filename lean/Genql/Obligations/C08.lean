/-
  Obligations on the regenerated facts about query COPIES.  `exec()` runs every inner array of a
  multi-dimensional FROM — and `BuildJoin` each side of a join — in a copy made by `CopyQuery`; the
  model's `levelElem` applies the SAME WHERE and the SAME rest of the pipeline at every level, and
  `Query.adopt` hands what the copy deferred (post processors, pending ASYNC calls) to its origin.
  That is faithful exactly when a copy inherits every clause of the query verbatim and keeps only
  per-run state of its own.
-/
import Genql.Generated.Facts
namespace Genql.Obligations.C08
open Genql.Generated

/-- the fields of `Query` a copy must take over unchanged: the document, the source, every clause,
    the options, and the post processors registered so far (`adopt` takes over what lies beyond them) -/
def inherited : List String :=
  ["data", "distinct", "from", "groupDefinition", "havingDefinition", "limitDefinition", "offsetDefinition", "options",
   "orderByDefinition", "postProcessors", "selectDefinition", "whereDefinition"]

/-- every inherited field is copied verbatim (`f: query.f`) -/
theorem copy_inherits_clauses :
    inherited.all (fun f => decisionsCopyQuery.contains (f ++ " = query." ++ f)) = true := by decide +kernel

/-- the fields a copy does NOT inherit are exactly its per-run state: the `dual` / `ident` flags set by
    `BuildFrom`, the filtered rows, the ONCE memo (a fresh map) and its own wait group -/
theorem copy_own_state :
    decisionsQueryFields.filter (fun f => !inherited.contains f) = ["dual", "filtered", "ident", "singletonExecutions", "wg"] := by
  decide +kernel

/-- the whole of `CopyQuery` and `adopt`, as written -/
theorem copy_query_lines :
    decisionsCopyQuery =
      ["data = query.data", "distinct = query.distinct", "from = query.from", "groupDefinition = query.groupDefinition",
       "havingDefinition = query.havingDefinition", "limitDefinition = query.limitDefinition",
       "offsetDefinition = query.offsetDefinition", "options = query.options", "orderByDefinition = query.orderByDefinition",
       "postProcessors = query.postProcessors", "selectDefinition = query.selectDefinition",
       "singletonExecutions = make(map[string]any)", "whereDefinition = query.whereDefinition",
       "adopt: if n := len(query.postProcessors); len(copy.postProcessors) > n { query.postProcessors = append(query.postProcessors, copy.postProcessors[n:]...) }",
       "adopt: query.wg.Add(1)", "adopt: go func() { copy.wg.Wait() query.wg.Done() }()"] := rfl

end Genql.Obligations.C08

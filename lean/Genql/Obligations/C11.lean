/-
  Obligation of C11 on the regenerated facts: every write site of the non-test sources (map / slice
  element assignment, `delete`, `copy`, `maps.Copy`, `sort.*`, `append` (which writes into the spare
  capacity of its first argument and returns a slice sharing its array), assignment through a pointer, field
  assignment on something that is not an engine struct) either targets a value allocated in the same
  function (not listed at all) or is one of the sites below, each with the reason why its target is
  not the caller's document.  A new in-place write makes the list differ and the obligation fail.
-/
import Genql.Generated.Facts
namespace Genql.Obligations.C11
open Genql.Generated

/-- write sites whose target is not locally allocated, with their justification -/
def allowedWriteSites : List String :=
  [ "AggrFunExpr:index:query.singletonExecutions"   -- the query's own memo (made by New/Prepare/CopyQuery)
  , "BuildCte:index:query.data"                     -- query.data was replaced by a private copy just above (BuildCte)
  , "BuildGroup:index:query.groupDefinition"        -- the query's own group definition (made by New/Prepare)
  , "BuildJoin:field:joinExpr.Condition.On"         -- the parser's AST (USING → ON), not the document
  , "Copy:copy:out", "Copy:index:out"               -- `out` is a map made by the only callers (JoinMatchFunc / HashJoinMatchFunc)
  , "ExecGroupBy:append:ref.items"                  -- a group record allocated in the same loop (`items: []any{item}`)
  , "ExecGroupBy:field:ref.items"                   -- a group record allocated in the same loop
  , "ExecReader:index:cache"                        -- the selector cache (C13)
  , "ExistExpr:field:q.from"                        -- `q` is a freshly prepared query; `from` is a new slice of merged copies
  , "FunExpr:index:query.singletonExecutions"       -- the query's own memo
  , "RegisterExternalFunction:index:functions", "RegisterFunction:index:functions"
  , "RegisterImmediateFunction:append:immediateFunctions"
  , "RegisterTopLevelFunction:index:topLevelFunctions"   -- registries (C13)
  , "SetVarFunc:index:query.options.vars"           -- the caller's VARIABLE map, which C20 requires to be written
  , "Sort:sort:slice"                               -- sorts the slice ExecSelect built (`copy := make(...)`), never `from`
  , "execUnionBranch:field:statement.With"          -- the parser's AST
  , "resolveAsyncSlots:index:row"                   -- rows ExecSelect has just built (fresh maps of SelectExpr); called from exec only (D51)
  ]

theorem writes_target_fresh : writeSites = allowedWriteSites := rfl

end Genql.Obligations.C11

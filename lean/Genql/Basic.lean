/-
  Genql.Basic — values, outcomes and the abstract number interface shared by the whole model.

  Core Lean only (no Mathlib): this file is linked into the `driver` executable.
-/
namespace Genql

/-- Outcome classes of the Go code that the model distinguishes.  Error *messages* are never
    modelled.  `panic` is a Go panic that would escape to the caller (after the repairs every
    API entry point recovers, so the model of the repaired code never produces it; it is kept so
    that "returns an error, never panics" is a statement and not an artefact of totalisation).
    `oom` = "out of model": the model declines to predict (e.g. a number whose `%v` text it
    cannot render); such cases are skipped and counted by the correspondence. -/
inductive Err where
  | error | panic | oom
  deriving DecidableEq, Repr, Inhabited

abbrev R (α : Type) := Except Err α

/-- The operations on numbers the engine uses.  The driver instantiates `N := Float` (the
    same IEEE-754 binary64 operations as Go's `float64`); theorems are stated for every `N`
    satisfying the order laws in `LawfulNum` and are instantiated at `Int` for non-vacuity. -/
class Num (N : Type) where
  add : N → N → N
  sub : N → N → N
  mul : N → N → N
  div : N → N → N
  neg : N → N
  lt  : N → N → Bool
  eq  : N → N → Bool
  /-- `math.Mod` (IEEE remainder with the sign of the dividend); `none` when the result is not a
      finite number (zero divisor, infinite operands) -/
  fmod : N → N → Option N
  ofInt : Int → N
  /-- `some i` iff the number is integral and fits Go's `int64` (conversion is exact). -/
  toInt? : N → Option Int
  /-- Go's `%v` text of the number, `none` when the model cannot render it exactly. -/
  fmt : N → Option String

/-- JSON-like data as the engine sees it (`nil, bool, float64, string, []any, map[string]any`).
    Objects are association lists; keys are kept unique by `setKey`. -/
inductive Val (N : Type) where
  | null
  | bool (b : Bool)
  | num (n : N)
  | str (s : String)
  | arr (xs : List (Val N))
  | obj (fs : List (String × Val N))
  deriving Inhabited

abbrev Row (N : Type) := List (String × Val N)

variable {N : Type}

/-- Association-list lookup (`data[key]`, second result of the comma-ok form). -/
def lookup? (k : String) : List (String × α) → Option α
  | [] => none
  | (k', v) :: rest => if k' = k then some v else lookup? k rest

/-- `data[key] = value` on a Go map: replace in place if present, else add. -/
def setKey (k : String) (v : α) : List (String × α) → List (String × α)
  | [] => [(k, v)]
  | (k', v') :: rest => if k' = k then (k, v) :: rest else (k', v') :: setKey k v rest

def delKey (k : String) : List (String × α) → List (String × α)
  | [] => []
  | (k', v') :: rest => if k' = k then delKey k rest else (k', v') :: delKey k rest

/-- `maps.Copy(dst, src)`. -/
def copyInto (dst src : List (String × α)) : List (String × α) :=
  src.foldl (fun acc kv => setKey kv.1 kv.2 acc) dst

/-- `SelectObject`: a missing key reads as NULL. -/
def Val.get (fs : Row N) (k : String) : Val N :=
  match lookup? k fs with
  | some v => v
  | none => .null

def Val.isNull : Val N → Bool
  | .null => true
  | _ => false

/-- Helper: monadic map with an explicit structural recursion (so that definitions using it
    on nested inductive children still reduce in the kernel). -/
def mapE {ε α β : Type} (f : α → Except ε β) : List α → Except ε (List β)
  | [] => .ok []
  | x :: xs => do
    let y ← f x
    let ys ← mapE f xs
    pure (y :: ys)

end Genql

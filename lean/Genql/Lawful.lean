/-
  Genql.Lawful — the order laws theorems assume of the abstract number type, and the proof that
  `Int` satisfies them (so no theorem is vacuous).  `Float` does NOT satisfy them in general
  (NaN); IEEE behaviour is outside every theorem and is only exercised by the correspondence.
-/
import Genql.Basic
import Genql.Inst.IntNum
namespace Genql

class LawfulNum (N : Type) [Num N] : Prop where
  eq_iff : ∀ a b : N, Num.eq a b = true ↔ a = b
  lt_irrefl : ∀ a : N, Num.lt a a = false
  lt_asymm : ∀ a b : N, Num.lt a b = true → Num.lt b a = false
  lt_trans : ∀ a b c : N, Num.lt a b = true → Num.lt b c = true → Num.lt a c = true
  lt_total : ∀ a b : N, Num.lt a b = true ∨ a = b ∨ Num.lt b a = true

instance : LawfulNum Int where
  eq_iff := by intro a b; simp [Num.eq]
  lt_irrefl := by intro a; simp [Num.lt]
  lt_asymm := by intro a b; simp [Num.lt]; omega
  lt_trans := by intro a b c; simp [Num.lt]; omega
  lt_total := by intro a b; simp [Num.lt]; omega

variable {N : Type} [Num N] [LawfulNum N]

theorem Num.eq_self (a : N) : Num.eq a a = true := (LawfulNum.eq_iff a a).2 rfl

theorem Num.lt_ne {a b : N} (h : Num.lt a b = true) : Num.eq a b = false :=
  Bool.eq_false_iff.2 fun he => by
    rw [(LawfulNum.eq_iff a b).1 he, LawfulNum.lt_irrefl] at h
    cases h

end Genql
